/-
  The execution substrate, once and for all programs.

  * what ONE primitive does (the accesses in closed form: `devReadRaw_eq`, `devWriteRaw_eq`, `runPrim_volRead`,
    `runPrim_volWrite`; `runPrim_step`): nothing, an assignment of the library's memory, or one access the
    configuration permits, which is logged and applied to the disk;
  * the induction over `Prog` for everything that relates the start of a run to its end (`Prog.Uses.run`): a
    reflexive, transitive relation between states that the primitives a program uses respect holds across every run.
    `run_trace_inv`, `run_state_inv`, `run_logged` (the log only grows, by permitted accesses, and the disk is the old
    disk with the new accesses applied) and the frame rules of `Hoare.lean` are instances;
  * `run_log_independent` (a statement about two runs, by its own induction): no program can observe the log.

  C12, C13, C17 and `C18_access_log_only_grows` instantiate these: their statements quantify over every `Prog`, not
  over the library's functions one by one.
-/
import AdfModel.Prog
namespace Adf

@[simp] theorem run_pure' {α : Type} (c : Cfg) (a : α) (s : St) : run c (pure a : Prog α) s = (.ok a, s) := rfl
@[simp] theorem run_bind' {α β : Type} (c : Cfg) (p : Prog β) (k : β → Prog α) (s : St) :
    run c (p >>= k) s = (match run c p s with
      | (.ok b, s') => run c (k b) s'
      | (.fault f, s') => (.fault f, s')) := by
  show run c (Prog.bind p k) s = _
  rw [run]
  rcases run c p s with ⟨r, s'⟩
  cases r <;> rfl
@[simp] theorem run_getCfg (c : Cfg) (s : St) : run c getCfg s = (.ok c, s) := rfl
@[simp] theorem run_getMem (c : Cfg) (s : St) : run c getMem s = (.ok s.mem, s) := rfl
@[simp] theorem run_setMem (c : Cfg) (m : Mem) (s : St) : run c (setMem m) s = (.ok (), { s with mem := m }) := rfl
@[simp] theorem run_now (c : Cfg) (s : St) : run c now s = (.ok s.clock, s) := rfl
@[simp] theorem run_fault {α : Type} (c : Cfg) (f : Fault) (s : St) : run c (fault f : Prog α) s = (.fault f, s) := rfl
@[simp] theorem run_getVolCfg (c : Cfg) (v : Nat) (s : St) : run c (getVolCfg v) s = (.ok (c.vol v), s) := rfl
@[simp] theorem run_getVolMem (c : Cfg) (v : Nat) (s : St) : run c (getVolMem v) s = (.ok (s.mem.vol v), s) := rfl
@[simp] theorem run_setVolMem (c : Cfg) (v : Nat) (x : VolMem) (s : St) :
    run c (setVolMem v x) s = (.ok (), { s with mem := s.mem.setVol v x }) := rfl

/-- events appended by running `p` from `s` -/
def newEvents {α : Type} (c : Cfg) (p : Prog α) (s : St) : List Ev :=
  ((run c p s).2.trace).take ((run c p s).2.trace.length - s.trace.length)

def Ev.isWr : Ev → Bool
  | .wr .. => true
  | .rd .. => false

def Ev.status : Ev → Nat
  | .wr _ _ _ _ st => st
  | .rd _ _ _ st => st

/-- the write events of a trace (newest first, like the trace) -/
def writesOf (t : List Ev) : List Ev := t.filter Ev.isWr

/-- the accesses a configuration permits: on behalf of a volume only while it is mounted and inside its block range; a
    write only where the volume — for a raw access the device — is writable -/
def Ev.Legal (c : Cfg) : Ev → Prop
  | .rd (some v) n _ _ => (c.vol v).mounted = true ∧ (c.vol v).firstBlock ≤ n ∧ n ≤ (c.vol v).lastBlock
  | .wr (some v) n _ _ _ =>
    (c.vol v).mounted = true ∧ (c.vol v).readOnly = false ∧ (c.vol v).firstBlock ≤ n ∧ n ≤ (c.vol v).lastBlock
  | .rd none _ _ _ => True
  | .wr none _ _ _ _ => c.devReadOnly = false

/-- the disk after an access: a write with status 0 stores its padded buffer; nothing else changes the disk -/
def Ev.store : Ev → Std.HashMap Nat Bytes → Std.HashMap Nat Bytes
  | .wr _ n _ b 0, d => d.insert n (padTo b 512)
  | _, d => d

theorem Ev.store_failed {vol : Option Nat} {n size st : Nat} {b : Bytes} (h : st ≠ 0) (d : Std.HashMap Nat Bytes) :
    (Ev.wr vol n size b st).store d = d := by
  cases st with
  | zero => exact absurd rfl h
  | succ k => rfl

/-- outcome of the device access state `s` is about to make: 0 done, 1 failed by the fault schedule, 2 beyond the device -/
def St.status (s : St) (c : Cfg) (n size : Nat) : Nat :=
  if s.tick.1 then 1 else if n * 512 + size > c.devSize then 2 else 0

theorem devReadRaw_eq (c : Cfg) (vol : Option Nat) (n size : Nat) (s : St) :
    devReadRaw c vol n size s =
      (if s.status c n size = 0 then (rcOK, (s.sector n).take size) else (rcError, []),
       { s.tick.2 with trace := Ev.rd vol n size (s.status c n size) :: s.trace }) := by
  unfold devReadRaw St.status
  by_cases h1 : s.tick.1 = true
  · simp only [h1, if_true]; rfl
  · by_cases h2 : n * 512 + size > c.devSize
    · simp only [h1, h2, if_true]; rfl
    · simp only [h1, h2, if_false]; rfl

theorem devWriteRaw_eq (c : Cfg) (vol : Option Nat) (n size : Nat) (b : Bytes) (s : St) :
    devWriteRaw c vol n size b s =
      (if s.status c n size = 0 then rcOK else rcError,
       { s.tick.2 with disk := (Ev.wr vol n size b (s.status c n size)).store s.disk,
                       trace := Ev.wr vol n size b (s.status c n size) :: s.trace }) := by
  unfold devWriteRaw St.status
  by_cases h1 : s.tick.1 = true
  · simp only [h1, if_true]; rfl
  · by_cases h2 : n * 512 + size > c.devSize
    · simp only [h1, h2, if_true]; rfl
    · simp only [h1, h2, if_false]; rfl

/-- physical sector addressed by block `n` of volume `v` -/
def vsect (c : Cfg) (v n : Nat) : Nat := (n + (c.vol v).firstBlock) % 4294967296

/-- status of the checks in front of a volume-level access to block `n` (`wr`: it is a write): unless it is `rcOK` the
    access is refused with it before the device is touched -/
def Cfg.gate (c : Cfg) (v n : Nat) (wr : Bool) : RC :=
  if (c.vol v).mounted = false then rcError
  else if wr = true ∧ (c.vol v).readOnly = true then rcError
  else if vsect c v n < (c.vol v).firstBlock ∨ vsect c v n > (c.vol v).lastBlock then rcBlockOutOfRange
  else rcOK

theorem Cfg.gate_ok (c : Cfg) (v n : Nat) (wr : Bool) : c.gate v n wr = rcOK ↔
    (c.vol v).mounted = true ∧ (wr = true → (c.vol v).readOnly = false) ∧
    ¬ (vsect c v n < (c.vol v).firstBlock ∨ vsect c v n > (c.vol v).lastBlock) := by
  unfold Cfg.gate
  cases (c.vol v).mounted <;> cases (c.vol v).readOnly <;> cases wr <;>
    by_cases h : vsect c v n < (c.vol v).firstBlock ∨ vsect c v n > (c.vol v).lastBlock <;> simp [h] <;> decide

theorem rcError_ne_ok : rcError ≠ rcOK := by decide
theorem rcRange_ne_ok : rcBlockOutOfRange ≠ rcOK := by decide
theorem rcVolFull_ne_ok : rcVolFull ≠ rcOK := by decide

theorem runPrim_volRead (c : Cfg) (v n : Nat) (s : St) : runPrim c (.volRead v n) s =
    if c.gate v n false = rcOK then
      (.ok (devReadRaw c (some v) (vsect c v n) 512 s).1, (devReadRaw c (some v) (vsect c v n) 512 s).2)
    else (.ok (c.gate v n false, []), s) := by
  simp only [runPrim, Cfg.gate, show (n + (c.vol v).firstBlock) % 4294967296 = vsect c v n from rfl]
  by_cases hm : (c.vol v).mounted = false
  · simp [hm, rcError_ne_ok]
  · by_cases h : vsect c v n < (c.vol v).firstBlock ∨ vsect c v n > (c.vol v).lastBlock <;>
      simp [h, hm, rcRange_ne_ok]

theorem runPrim_volWrite (c : Cfg) (v n : Nat) (b : Bytes) (s : St) : runPrim c (.volWrite v n b) s =
    if c.gate v n true = rcOK then
      (.ok (devWriteRaw c (some v) (vsect c v n) 512 b s).1, (devWriteRaw c (some v) (vsect c v n) 512 b s).2)
    else (.ok (c.gate v n true), s) := by
  simp only [runPrim, Cfg.gate, show (n + (c.vol v).firstBlock) % 4294967296 = vsect c v n from rfl]
  by_cases hm : (c.vol v).mounted = false
  · simp [hm, rcError_ne_ok]
  · by_cases hro : (c.vol v).readOnly = true
    · simp [hm, hro, rcError_ne_ok]
    · by_cases h : vsect c v n < (c.vol v).firstBlock ∨ vsect c v n > (c.vol v).lastBlock <;>
        simp [h, hm, hro, rcRange_ne_ok]

@[simp] def Prim.writes : {β : Type} → Prim β → Bool
  | _, .volWrite .. => true
  | _, .devWrite .. => true
  | _, _ => false

@[simp] def Prim.setsMem : {β : Type} → Prim β → Bool
  | _, .setMem _ => true
  | _, _ => false

/-- **what a primitive can do to the state**: nothing; assign the library's memory (`m`: it may); or one access the
    configuration permits, which moves the access counters, is logged in front and is applied to the disk — a write
    only where `w` says it may -/
inductive PrimStep (c : Cfg) (s : St) (w m : Bool) : St → Prop
  | skip : PrimStep c s w m s
  | mem (x : Mem) (hm : m = true) : PrimStep c s w m { s with mem := x }
  | access (e : Ev) (h : e.Legal c) (hw : e.isWr = true → w = true) :
      PrimStep c s w m { s.tick.2 with disk := e.store s.disk, trace := e :: s.trace }

/-- a primitive always returns (model faults come from `Prog.fail` only), and its effect is a `PrimStep` -/
theorem runPrim_step (c : Cfg) {β : Type} (pr : Prim β) (s : St) :
    ∃ b s', runPrim c pr s = (.ok b, s') ∧ PrimStep c s pr.writes pr.setsMem s' := by
  cases pr with
  | volRead v n =>
    rw [runPrim_volRead, devReadRaw_eq]
    by_cases h : c.gate v n false = rcOK
    · obtain ⟨hm, _, hr⟩ := (c.gate_ok ..).mp h
      rw [if_pos h]
      exact ⟨_, _, rfl, .access (.rd ..) ⟨hm, by omega, by omega⟩ nofun⟩
    · rw [if_neg h]
      exact ⟨_, _, rfl, .skip⟩
  | volWrite v n b =>
    rw [runPrim_volWrite, devWriteRaw_eq]
    by_cases h : c.gate v n true = rcOK
    · obtain ⟨hm, hro, hr⟩ := (c.gate_ok ..).mp h
      rw [if_pos h]
      exact ⟨_, _, rfl, .access (.wr ..) ⟨hm, hro rfl, by omega, by omega⟩ fun _ => rfl⟩
    · rw [if_neg h]
      exact ⟨_, _, rfl, .skip⟩
  | devRead n size => simp only [runPrim, devReadRaw_eq]; exact ⟨_, _, rfl, .access (.rd ..) trivial nofun⟩
  | devWrite n size b =>
    simp only [runPrim, devWriteRaw_eq]
    split
    · exact ⟨_, _, rfl, .skip⟩
    · rename_i hro
      exact ⟨_, _, rfl, .access (.wr ..) (by simpa [Ev.Legal] using hro) fun _ => rfl⟩
  | getCfg => exact ⟨_, _, rfl, .skip⟩
  | getMem => exact ⟨_, _, rfl, .skip⟩
  | setMem x => exact ⟨_, _, rfl, .mem x rfl⟩
  | now => exact ⟨_, _, rfl, .skip⟩

/-- `p.Uses A F`: every primitive `p` can issue satisfies `A`, every model fault it can raise satisfies `F` -/
def Prog.Uses (A : {β : Type} → Prim β → Prop) (F : Fault → Prop) : {α : Type} → Prog α → Prop
  | _, .pure _ => True
  | _, .fail f => F f
  | _, .prim p => A p
  | _, .bind p k => Prog.Uses A F p ∧ ∀ b, Prog.Uses A F (k b)

/-- **the induction over programs**: a reflexive and transitive relation between states that the permitted primitives
    respect holds between the start and the end of every run of a program that uses only those, and such a run raises
    only permitted faults -/
theorem Prog.Uses.run {A : {β : Type} → Prim β → Prop} {F : Fault → Prop} {R : St → St → Prop} (c : Cfg)
    (hrefl : ∀ s, R s s) (htrans : ∀ {s1 s2 s3}, R s1 s2 → R s2 s3 → R s1 s3)
    (hprim : ∀ {β : Type} (pr : Prim β) (s : St), A pr → R s (runPrim c pr s).2) :
    ∀ {α : Type} {p : Prog α}, p.Uses A F → ∀ s, R s (Adf.run c p s).2 ∧ ∀ f, (Adf.run c p s).1 = .fault f → F f := by
  intro α p
  induction p with
  | pure a => intro _ s; exact ⟨hrefl s, fun f h => by cases h⟩
  | fail f => intro hu s; exact ⟨hrefl s, fun f h => by cases h; exact hu⟩
  | prim pr =>
    intro hu s
    obtain ⟨b, s', hb, _⟩ := runPrim_step c pr s
    exact ⟨hprim pr s hu, fun f h => by rw [Adf.run, hb] at h; cases h⟩
  | bind p k ihp ihk =>
    intro hu s
    have h1 := ihp hu.1 s
    rw [Adf.run]
    generalize Adf.run c p s = x at h1 ⊢
    rcases x with ⟨b | f, s'⟩
    · have h2 := ihk b (hu.2 b) s'
      exact ⟨htrans h1.1 h2.1, h2.2⟩
    · exact ⟨h1.1, fun f' h => h1.2 f' (by cases h; rfl)⟩

theorem Prog.Uses.mono {A A' : {β : Type} → Prim β → Prop} {F F' : Fault → Prop}
    (hA : ∀ {β : Type} (pr : Prim β), A pr → A' pr) (hF : ∀ f, F f → F' f) :
    ∀ {α : Type} {p : Prog α}, p.Uses A F → p.Uses A' F' := by
  intro α p
  induction p with
  | pure a => exact id
  | fail f => exact hF f
  | prim pr => exact hA pr
  | bind p k ihp ihk => exact fun h => ⟨ihp h.1, fun b => ihk b (h.2 b)⟩

theorem Prog.uses_any : ∀ {α : Type} (p : Prog α), p.Uses (fun _ => True) (fun _ => True) := by
  intro α p
  induction p with
  | pure a => trivial
  | fail f => trivial
  | prim pr => trivial
  | bind p k ihp ihk => exact ⟨ihp, ihk⟩

theorem run_rel (c : Cfg) {R : St → St → Prop} (hrefl : ∀ s, R s s) (htrans : ∀ {s1 s2 s3}, R s1 s2 → R s2 s3 → R s1 s3)
    (hprim : ∀ {β : Type} (pr : Prim β) (s : St), R s (runPrim c pr s).2) {α : Type} (p : Prog α) (s : St) :
    R s (run c p s).2 :=
  (Prog.Uses.run c hrefl htrans (fun pr s _ => hprim pr s) p.uses_any s).1

/-- a property of events that every primitive respects holds of every event any program emits, and the old trace is
    kept as a suffix -/
theorem run_trace_inv (c : Cfg) (P : Ev → Prop)
    (hP : ∀ {β : Type} (pr : Prim β) (s : St),
      ∃ evs, (runPrim c pr s).2.trace = evs ++ s.trace ∧ ∀ e ∈ evs, P e) :
    ∀ {α : Type} (p : Prog α) (s : St),
      ∃ evs, (run c p s).2.trace = evs ++ s.trace ∧ ∀ e ∈ evs, P e :=
  fun p s => run_rel c (R := fun s s' => ∃ evs, s'.trace = evs ++ s.trace ∧ ∀ e ∈ evs, P e)
    (fun _ => ⟨[], rfl, fun _ h => nomatch h⟩)
    (fun ⟨e1, h1, p1⟩ ⟨e2, h2, p2⟩ => ⟨e2 ++ e1, by rw [h2, h1, List.append_assoc],
      fun e he => (List.mem_append.mp he).elim (p2 e) (p1 e)⟩)
    hP p s

/-- a state property preserved by every primitive is preserved by every program -/
theorem run_state_inv (c : Cfg) (Q : St → Prop)
    (hQ : ∀ {β : Type} (pr : Prim β) (s : St), Q s → Q (runPrim c pr s).2) :
    ∀ {α : Type} (p : Prog α) (s : St), Q s → Q (run c p s).2 :=
  fun p s => run_rel c (R := fun s s' => Q s → Q s') (fun _ h => h) (fun h1 h2 h => h2 (h1 h)) hQ p s

/-- the log of a run accounts for the disk: `s'` has the events `evs` in front of `s`'s log, all permitted by the
    configuration, and its disk is `s`'s disk with `evs` applied, oldest first -/
def Logged (c : Cfg) (s s' : St) : Prop :=
  ∃ evs, s'.trace = evs ++ s.trace ∧ (∀ e ∈ evs, e.Legal c) ∧ s'.disk = evs.foldr Ev.store s.disk

theorem Logged.refl (c : Cfg) (s : St) : Logged c s s := ⟨[], rfl, (fun _ h => nomatch h), rfl⟩

theorem Logged.trans {c : Cfg} {s1 s2 s3 : St} : Logged c s1 s2 → Logged c s2 s3 → Logged c s1 s3 := by
  rintro ⟨e1, h1, p1, d1⟩ ⟨e2, h2, p2, d2⟩
  exact ⟨e2 ++ e1, by rw [h2, h1, List.append_assoc], fun e he => (List.mem_append.mp he).elim (p2 e) (p1 e),
    by rw [d2, d1, List.foldr_append]⟩

/-- **every program only adds permitted accesses to the log, and the log accounts for the disk** -/
theorem run_logged (c : Cfg) {α : Type} (p : Prog α) (s : St) : Logged c s (run c p s).2 := by
  refine run_rel c (Logged.refl c) Logged.trans (fun pr s => ?_) p s
  obtain ⟨_, s', hr, hs⟩ := runPrim_step c pr s
  rw [hr]
  cases hs with
  | skip => exact .refl c s
  | mem x _ => exact .refl c s
  | access e h _ => exact ⟨[e], rfl, fun e' he => by rw [List.mem_singleton.mp he]; exact h, rfl⟩

def EqUpToLog (a b : St) : Prop :=
  a.disk = b.disk ∧ a.ioCount = b.ioCount ∧ a.faultAt = b.faultAt ∧ a.faultEvery = b.faultEvery ∧ a.faultCount = b.faultCount ∧
  a.faultsFired = b.faultsFired ∧ a.clock = b.clock ∧ a.mem = b.mem

theorem eqUpToLog_iff (a b : St) : EqUpToLog a b ↔ a = { b with trace := a.trace } := by
  constructor
  · rintro ⟨h1, h2, h3, h4, h4', h5, h6, h7⟩
    cases a; cases b; simp_all
  · intro h; rw [h]; exact ⟨rfl, rfl, rfl, rfl, rfl, rfl, rfl, rfl⟩

theorem prim_log_independent (c : Cfg) {β : Type} (pr : Prim β) (b : St) (t : List Ev) :
    (runPrim c pr { b with trace := t }).1 = (runPrim c pr b).1 ∧
    EqUpToLog (runPrim c pr { b with trace := t }).2 (runPrim c pr b).2 := by
  -- in closed form both sides branch on the same conditions, and no branch looks at the log
  have leaf : ∀ {x y : St}, x = { y with trace := x.trace } → EqUpToLog x y := fun h => (eqUpToLog_iff _ _).mpr h
  cases pr with
  | volRead v n => simp only [runPrim_volRead, devReadRaw_eq]; split <;> exact ⟨rfl, leaf rfl⟩
  | volWrite v n d => simp only [runPrim_volWrite, devWriteRaw_eq]; split <;> exact ⟨rfl, leaf rfl⟩
  | devRead n size => simp only [runPrim, devReadRaw_eq]; exact ⟨rfl, leaf rfl⟩
  | devWrite n size d => simp only [runPrim, devWriteRaw_eq]; split <;> exact ⟨rfl, leaf rfl⟩
  | getCfg => exact ⟨rfl, leaf rfl⟩
  | getMem => exact ⟨rfl, leaf rfl⟩
  | setMem m => exact ⟨rfl, leaf rfl⟩
  | now => exact ⟨rfl, leaf rfl⟩

/-- **the outcome of a program does not depend on the access log**: from two states that differ in the log only it
    returns the same value and reaches states that again differ in the log only -/
theorem run_log_independent (c : Cfg) : ∀ {α : Type} (p : Prog α) (a b : St), EqUpToLog a b →
    (run c p a).1 = (run c p b).1 ∧ EqUpToLog (run c p a).2 (run c p b).2 := by
  intro α p
  induction p with
  | pure x => intro a b h; exact ⟨rfl, h⟩
  | fail f => intro a b h; exact ⟨rfl, h⟩
  | prim pr =>
    intro a b h
    rw [(eqUpToLog_iff a b).mp h]
    exact prim_log_independent c pr b a.trace
  | bind p k ihp ihk =>
    intro a b h
    have h1 := ihp a b h
    simp only [run]
    generalize run c p a = ra at h1 ⊢
    generalize run c p b = rb at h1 ⊢
    obtain ⟨e, hs⟩ := h1
    rcases ra with ⟨x | f, sa⟩ <;> rcases rb with ⟨y | g, sb⟩ <;> cases e
    · exact ihk x sa sb hs
    · exact ⟨rfl, hs⟩

end Adf
