/-
  Write sets of operations (C18: each write lands on a free block, the object's own blocks, its directories' metadata or
  a sibling's chain link): which blocks an operation may write, for every disk content, state and fault schedule.  Here:
  the vocabulary the statements share; what the block writers contribute to a write set; the rule `lookup_found` for the
  directory lookup four operations begin with, and `LookedUp`, what it hands on; `adfSetEntryAccess`,
  `adfSetEntryComment`; and the vocabulary of `adfRenameEntry`'s write set.
-/
import AdfProofs.ChainLemmas
namespace Adf

def One (P : Ev → Prop) (W : List Ev) : Prop := W = [] ∨ ∃ e, W = [e] ∧ P e
def ToSect (c : Cfg) (v n : Nat) (e : Ev) : Prop := ∃ data st, e = Ev.wr (some v) (vsect c v n) 512 data st
def OneWriteTo (c : Cfg) (v : Nat) (W : List Ev) : Prop :=
  W = [] ∨ ∃ n data st, W = [Ev.wr (some v) (vsect c v n) 512 data st]

section
variable {c : Cfg} {v n : Nat} {b : Bytes} {s s' : St} {rc : RC}

theorem WriteStep.one (w : WriteStep c v n b s rc s') {P : Ev → Prop}
    (hP : ∀ st, P (Ev.wr (some v) (vsect c v n) 512 b st)) : ∃ W, Wrote s s' W ∧ One P W :=
  let ⟨W, hW, h⟩ := w.atMostOne
  ⟨W, hW, h.imp id fun ⟨st, e⟩ => ⟨_, e, hP st⟩⟩

theorem WriteStep.toSect (w : WriteStep c v n b s rc s') : ∃ W, Wrote s s' W ∧ One (ToSect c v n) W :=
  w.one fun st => ⟨_, st, rfl⟩

end

theorem Post.writeParent {F : Fault → Prop} {c : Cfg} {v sect : Nat} {dir : Blk} {s : St} {Q : RC × Blk → St → Prop}
    (h : ∀ r s' W, Wrote s s' W → One (ToSect c v sect) W → Q r s') : Post F c (Adf.writeParent v dir sect) s Q := by
  have one : ∀ {b r rc s'}, WriteStep c v sect b s rc s' → Q r s' := fun w => let ⟨W, hW, h1⟩ := w.toSect; h _ _ W hW h1
  unfold Adf.writeParent
  exact Post.ite (fun _ => Post.writeRootBlock fun _ _ => one) (fun _ => Post.writeDirBlock fun _ _ => one)

/-- the entry written back by the writer its type selects, then `k`; the `do` notation pushes the continuation into the
    branches, hence `>>= k` three times -/
theorem writeByType_one {F : Fault → Prop} {α : Type} {c : Cfg} {v n : Nat} {e : Blk} {k : RC × Blk → Prog α} {s : St}
    {Q : α → St → Prop} (h : ∀ r s' W, Wrote s s' W → One (ToSect c v n) W → Post F c (k r) s' Q) :
    Post F c (if e.secType = ST_DIR then writeDirBlock v n e >>= k
      else if e.secType = ST_FILE then writeFileHdrBlock v n e >>= k else pure (rcOK, e) >>= k) s Q := by
  have one : ∀ {b r rc s'}, WriteStep c v n b s rc s' → Post F c (k r) s' Q := fun w =>
    let ⟨W, hW, h1⟩ := w.toSect
    h _ _ W hW h1
  refine Post.ite (fun _ => ?_) (fun _ => Post.ite (fun _ => ?_) (fun _ => ?_)) <;> apply Post.bind
  · exact Post.writeDirBlock fun _ _ => one
  · exact Post.writeFileHdrBlock fun _ _ => one
  · exact Post.pure (h _ _ [] (.refl s) (.inl rfl))

/-- `name` is found in directory `pSect` at block `nSect`, with chain predecessor `prevSect` (0 = head of its chain), by the
    library's own lookup started in state `s` -/
def FoundAt (c : Cfg) (v pSect : Nat) (name : Bytes) (s : St) (nSect prevSect : Nat) : Prop :=
  ∃ rc parent entry s1 s2, run c (readEntryBlock v pSect) s = (.ok (rc, parent), s1) ∧
    run c (nameToEntryBlk v parent name) s1 = (.ok (some nSect, entry, prevSect), s2)

/-- the lookup that `adfRemoveEntry`, `adfRenameEntry`, `adfSetEntryAccess` and `adfSetEntryComment` begin with, as it went
    from `s` when it finds the name: directory block `pSect` was read as `parent`, and `adfNameToEntryBlk` in it returned
    `entry` at block `nSect` with chain predecessor `prev`, leaving `s'` -/
structure LookedUp (c : Cfg) (v pSect : Nat) (name : Bytes) (s : St) (parent : Blk) (nSect : Nat) (entry : Blk) (prev : Nat)
    (s' : St) : Prop where
  reads : Reads s s'
  parent_eq : parent = blkOfBytes ((s.sector (vsect c v pSect)).take 512)
  foundAt : FoundAt c v pSect name s nSect prev
  /-- on a healthy device, the directory block being valid and `chain` the chain of the name's slot, the verdict is the
      reference lookup's -/
  healthy : ∀ {par chain}, s.faultAt = none → EntryAt c s.disk v pSect par →
    ChainOn c s.disk v (par.hash (hashName (useIntl (c.vol v).dosType) name)) chain →
    chain.length ≤ (c.vol v).lastBlock - (c.vol v).firstBlock + 1 →
    (some nSect, entry, prev) = lookupSpec (useIntl (c.vol v).dosType) name chain 0 zeroBlk

/-- the lookup, then `k`: only reads happen before an exit or `k`, and `k` starts from what `LookedUp` records.  Stated with
    projections: the `match`es of the four callers are different constants, and this form unifies with all of them. -/
theorem lookup_found {α : Type} {c : Cfg} {v pSect : Nat} {name : Bytes} {fail : RC × Blk → α} {missing : α}
    {k : RC × Blk → Option Nat × Blk × Nat → Nat → Prog α} {s : St} {Q : α → St → Prop}
    (hfail : ∀ x s', Reads s s' → Q (fail x) s') (hmissing : ∀ s', Reads s s' → Q missing s')
    (hk : ∀ rc parent entry prev nSect s', LookedUp c v pSect name s parent nSect entry prev s' →
      Post AnyFault c (k (rc, parent) (some nSect, entry, prev) nSect) s' Q) :
    Post AnyFault c (readEntryBlock v pSect >>= fun x =>
      if x.1 ≠ rcOK then pure (fail x) else nameToEntryBlk v x.2 name >>= fun y =>
        match y.1 with
        | none => pure missing
        | some nSect => k x y nSect) s Q := by
  apply Post.bind
  refine ((Post.runEq fun _ => trivial).and
    (Post.readEntryBlock (Q := fun r s' => BlkRead c v pSect s r.1 r.2 s') fun _ _ _ r _ => r)).mono ?_
  rintro ⟨rc, parent⟩ s1 ⟨hrun1, r1⟩
  refine Post.ite (fun _ => Post.pure (hfail _ _ r1.reads)) (fun hrc => ?_)
  have hpeq := r1.ok (Classical.not_not.mp hrc)
  apply Post.bind
  refine ((Post.runEq fun _ => trivial).and (Post.reads (nameToEntryBlk_reads v parent name))).mono ?_
  rintro ⟨ns, entry, prev⟩ s2 ⟨hrun2, r2⟩
  cases ns with
  | none => exact Post.pure (hmissing _ (r1.reads.trans r2))
  | some nSect =>
    refine hk _ _ _ _ _ _ ⟨r1.reads.trans r2, hpeq, ⟨rc, parent, entry, s1, s2, hrun1, hrun2⟩, fun hf hpar hch hlen => ?_⟩
    obtain rfl := hpeq.trans hpar.2.1
    exact ((nameToEntryBlk_lookup (F := AnyFault) c v parent name _ s1 (r1.reads.faultAt.trans hf)
      (r1.reads.disk ▸ hch) hlen).holds hrun2).1

/-- at most one write, and it goes to the block the library's own lookup (started in `s`) finds for `name` in directory
    `pSect` -/
def WritesFound (c : Cfg) (v pSect : Nat) (name : Bytes) (s : St) (W : List Ev) : Prop :=
  W = [] ∨ ∃ nSect prevSect, FoundAt c v pSect name s nSect prevSect ∧ One (ToSect c v nSect) W

theorem WritesFound.oneWriteTo {c : Cfg} {v pSect : Nat} {name : Bytes} {s : St} {W : List Ev}
    (h : WritesFound c v pSect name s W) : OneWriteTo c v W :=
  h.elim .inl fun ⟨n, _, _, h1⟩ => h1.imp id fun ⟨_, hW, data, st, he⟩ => ⟨n, data, st, he ▸ hW⟩

theorem setEntryAccess_write_set (c : Cfg) (v parSect : Nat) (name : Bytes) (acc : Nat) (s : St)
    (hnc : isDIRCACHE (c.vol v).dosType = false) :
    Post AnyFault c (setEntryAccess v parSect name acc) s (fun _ s' =>
      ∃ W, Wrote s s' W ∧ WritesFound c v parSect name s W) := by
  unfold setEntryAccess
  apply Post.bind; apply Post.getVolCfg
  refine lookup_found (fun _ _ r => ⟨[], r.wrote, .inl rfl⟩) (fun _ r => ⟨[], r.wrote, .inl rfl⟩)
    fun rc parent entry prev nSect s2 look => ?_
  refine writeByType_one fun r s3 W hW h1 => ?_
  have done : ∃ W, Wrote s s3 W ∧ WritesFound c v parSect name s W :=
    ⟨W, look.reads.toNoWrite.then_wrote hW, .inr ⟨nSect, prev, look.foundAt, h1⟩⟩
  refine Post.ite (fun _ => Post.pure done) (fun _ => ?_)
  exact Post.ite (fun h => absurd h (Bool.eq_false_iff.mp hnc)) fun _ => Post.pure done

theorem setEntryComment_write_set (c : Cfg) (v parSect : Nat) (name cmt : Bytes) (s : St)
    (hnc : isDIRCACHE (c.vol v).dosType = false) :
    Post AnyFault c (setEntryComment v parSect name cmt) s (fun _ s' =>
      ∃ W, Wrote s s' W ∧ WritesFound c v parSect name s W) := by
  unfold setEntryComment
  apply Post.bind; apply Post.getVolCfg
  refine lookup_found (fun _ _ r => ⟨[], r.wrote, .inl rfl⟩) (fun _ r => ⟨[], r.wrote, .inl rfl⟩)
    fun rc parent entry prev nSect s2 look => ?_
  apply Post.bind
  refine (Post.reads (hasFreeBlocks_reads v 1)).mono ?_
  intro room s3 r3
  refine Post.ite (fun h => absurd h.1 (Bool.eq_false_iff.mp hnc)) (fun _ => ?_)
  refine writeByType_one fun r s4 W hW h1 => ?_
  have done : ∃ W, Wrote s s4 W ∧ WritesFound c v parSect name s W :=
    ⟨W, (look.reads.trans r3).toNoWrite.then_wrote hW, .inr ⟨nSect, prev, look.foundAt, h1⟩⟩
  refine Post.ite (fun _ => Post.pure done) (fun _ => ?_)
  exact Post.ite (fun h => absurd h (Bool.eq_false_iff.mp hnc)) fun _ => Post.pure done

/-- a block rewritten with only its chain link replaced, addressed to block `n` -/
def IsPrevLinkWr (c : Cfg) (v n : Nat) (e : Ev) : Prop :=
  ∃ (blk : Blk) (x : Nat) (st : Nat), e = Ev.wr (some v) (vsect c v n) 512 (bytesOfBlk (withSum (blk.setW F_nextSameHash x) F_checkSum)) st
/-- the last entry of the destination chain, rewritten where it says it lives with its link set to `nSect` -/
def IsTailLinkWr (c : Cfg) (v nSect : Nat) (e : Ev) : Prop :=
  ∃ (blk : Blk) (fix : Blk → Blk) (st : Nat), EntryFix fix ∧ e = Ev.wr (some v) (vsect c v ((blk.setW F_nextSameHash nSect).w F_headerKey)) 512
    (bytesOfBlk (withSum (fix (blk.setW F_nextSameHash nSect)) F_checkSum)) st

/-- the device writes of `adfRenameEntry` on a volume without directory cache, newest first: the chain predecessor of the
    entry (link only), the source directory, the entry itself, the tail of the destination chain (link only), the
    destination directory — each at most once, in this order, and nothing else -/
def RenameWrites (c : Cfg) (v pSect nPSect : Nat) (oldName : Bytes) (s : St) (W : List Ev) : Prop :=
  W = [] ∨ ∃ nSect prevSect W5 W4 W3 W2 W1, FoundAt c v pSect oldName s nSect prevSect ∧ W = W5 ++ W4 ++ W3 ++ W2 ++ W1 ∧
    One (IsPrevLinkWr c v prevSect) W1 ∧ One (ToSect c v pSect) W2 ∧ One (ToSect c v nSect) W3 ∧
    One (IsTailLinkWr c v nSect) W4 ∧ One (ToSect c v nPSect) W5

end Adf
