/-
  Rules for the typed block readers and writers of `AdfModel/Blocks.lean` that the library-level proofs meet; each hands
  the caller everything the call does: a reader is one `volRead` followed by decoding, a writer one `volWrite` of the
  block's image.  (`adfWriteDataBlock`, whose image depends on the volume's flavour, has its rule next to `dataImage` in
  `FileWriteLemmas.lean`.)
-/
import AdfProofs.Hoare
import AdfModel.Blocks
namespace Adf

/-- block `n` of volume `v` can be addressed (`Readable`) and its sector holds the valid entry block `b` -/
def EntryAt (c : Cfg) (disk : Std.HashMap Nat Bytes) (v n : Nat) (b : Blk) : Prop :=
  Readable c v n ∧ blkOfBytes ((disk.getD (vsect c v n) zeroBlock).take 512) = b ∧
  b.w F_checkSum = normalSum b F_checkSum ∧ b.w F_type = T_HEADER

theorem EntryAt.sector {c : Cfg} {disk : Std.HashMap Nat Bytes} {v n : Nat} {b : Blk} (h : EntryAt c disk v n b) :
    blkOfBytes ((disk.getD (vsect c v n) zeroBlock).take 512) = b := h.2.1

theorem EntryAt.type {c : Cfg} {disk : Std.HashMap Nat Bytes} {v n : Nat} {b : Blk} (h : EntryAt c disk v n b) :
    b.w F_type = T_HEADER := h.2.2.2

/-- what a typed block read delivers: only a read happened, at most one; with status OK the struct is the decoded
    content of the addressed sector as it is on the disk -/
structure BlkRead (c : Cfg) (v n : Nat) (s : St) (rc : RC) (b : Blk) (s' : St) : Prop where
  reads : Reads s s'
  io : s'.ioCount ≤ s.ioCount + 1
  ok : rc = rcOK → b = blkOfBytes ((s.sector (vsect c v n)).take 512)

section
variable {F : Fault → Prop} {c : Cfg} {v n : Nat} {s : St}

theorem Post.readFileExtBlock {Q : RC × Blk → St → Prop} (h : ∀ rc b s', BlkRead c v n s rc b s' → Q (rc, b) s') :
    Post F c (Adf.readFileExtBlock v n) s Q := by
  unfold Adf.readFileExtBlock
  apply Post.bind; apply Post.read
  intro rc buf s' r
  refine Post.ite (fun hrc => ?_) (fun hrc => ?_)
  · exact Post.pure (h _ _ _ ⟨r.reads, r.io, fun hk => absurd hk hrc⟩)
  · exact Post.pure (h _ _ _ ⟨r.reads, r.io, fun _ => by rw [(r.ok (Classical.not_not.mp hrc)).1]⟩)

/-! `readDirCBlock`, `readBitmapBlock` and `readBitmapExtBlock` are the same program as `readFileExtBlock`: `apply
    Post.readFileExtBlock` serves all four (the unifier unfolds the definitions). -/

/-- `adfReadEntryBlock` rejects a bad checksum or type; the rule records the converse: on a device without fault schedule
    a valid entry block (`EntryAt`) is delivered -/
theorem Post.readEntryBlock {Q : RC × Blk → St → Prop}
    (h : ∀ rc b s', BlkRead c v n s rc b s' →
      (∀ b0, s.faultAt = none → EntryAt c s.disk v n b0 → rc = rcOK ∧ b = b0) → Q (rc, b) s') :
    Post F c (Adf.readEntryBlock v n) s Q := by
  unfold Adf.readEntryBlock
  apply Post.bind; apply Post.read
  intro rc buf s' r
  have hno : ∀ (rc' : RC) (b : Blk), rc' ≠ rcOK → (∀ b0, s.faultAt = none → EntryAt c s.disk v n b0 → False) →
      Q (rc', b) s' := fun rc' b hrc' hh =>
    h _ _ _ ⟨r.reads, r.io, fun hk => absurd hk hrc'⟩ fun b0 hf he => (hh b0 hf he).elim
  refine Post.ite (fun hrc => ?_) (fun hrc => ?_)
  · exact Post.pure (hno _ _ hrc fun b0 hf he => hrc (r.healthy hf he.1))
  have hb : blkOfBytes buf = blkOfBytes ((s.sector (vsect c v n)).take 512) := by
    rw [(r.ok (Classical.not_not.mp hrc)).1]
  refine Post.ite (fun hsum => ?_) (fun hsum => ?_)
  · exact Post.pure (hno _ _ (by decide) fun b0 _ he => hsum (by rw [hb]; exact he.sector ▸ he.2.2.1))
  refine Post.ite (fun hty => ?_) (fun hty => ?_)
  · exact Post.pure (hno _ _ rcError_ne_ok fun b0 _ he => hty (by rw [hb]; exact he.sector ▸ he.type))
  · exact Post.pure (h _ _ _ ⟨r.reads, r.io, fun _ => hb⟩ fun b0 _ he => ⟨rfl, hb.trans he.sector⟩)

theorem Post.readEntryAt {b : Blk} {Q : RC × Blk → St → Prop}
    (hf : s.faultAt = none) (he : EntryAt c s.disk v n b) (h : ∀ s', Reads s s' → Q (rcOK, b) s') :
    Post F c (Adf.readEntryBlock v n) s Q :=
  Post.readEntryBlock fun _ _ s' r hh => by
    obtain ⟨rfl, rfl⟩ := hh b hf he
    exact h s' r.reads

theorem Post.readRootBlock {Q : RC × Blk → St → Prop}
    (h : ∀ rc b s', Reads s s' → (rc = rcOK → b = blkOfBytes ((s.sector (vsect c v n)).take 512)) → Q (rc, b) s') :
    Post F c (Adf.readRootBlock v n) s Q := by
  unfold Adf.readRootBlock
  apply Post.bind; apply Post.read
  intro rc buf s' r
  refine Post.ite (fun hrc => ?_) (fun hrc => ?_)
  · exact Post.pure (h _ _ _ r.reads fun hk => absurd hk hrc)
  · have hb : blkOfBytes buf = blkOfBytes ((s.sector (vsect c v n)).take 512) := by
      rw [(r.ok (Classical.not_not.mp hrc)).1]
    exact Post.ite (fun _ => Post.pure (h _ _ _ r.reads fun _ => hb)) (fun _ => Post.pure (h _ _ _ r.reads fun _ => hb))

theorem Post.readDataBlock {Q : RC × Bytes → St → Prop}
    (h : ∀ rc buf s', Reads s s' → (rc = rcOK → buf = padTo ((s.sector (vsect c v n)).take 512) 512) → Q (rc, buf) s') :
    Post F c (Adf.readDataBlock v n) s Q := by
  unfold Adf.readDataBlock
  refine Post.ite (fun _ => ?_) (fun _ => ?_)
  · exact Post.pure (h _ _ _ (.refl s) fun hk => absurd hk rcError_ne_ok)
  apply Post.bind; apply Post.read
  intro rc buf s' r
  refine Post.ite (fun hrc => ?_) (fun hrc => ?_)
  · exact Post.pure (h _ _ _ r.reads fun hk => absurd hk hrc)
  · exact Post.pure (h _ _ _ r.reads fun _ => by rw [(r.ok (Classical.not_not.mp hrc)).1])

/-! the writers: the normalised struct, its image with the checksum, one `volWrite` -/

theorem Post.writeRootBlock {b : Blk} {Q : RC × Blk → St → Prop}
    (h : ∀ rc s', WriteStep c v n (bytesOfBlk (withSum (rootFixed b) F_checkSum)) s rc s' → Q (rc, rootFixed b) s') :
    Post F c (Adf.writeRootBlock v n b) s Q := by
  unfold Adf.writeRootBlock
  apply Post.bind; apply Post.write
  intro rc s' w; exact Post.pure (h rc s' w)

/-- `adfWriteDirBlock` reports success exactly when its write succeeded -/
theorem dirRc_ok (rc : RC) : (if rc ≠ rcOK then rcError else rcOK) = rcOK ↔ rc = rcOK := by
  by_cases h : rc = rcOK <;> simp [h, rcError_ne_ok]

theorem Post.writeDirBlock {b : Blk} {Q : RC × Blk → St → Prop}
    (h : ∀ rc s', WriteStep c v n (bytesOfBlk (withSum (dirFixed b) F_checkSum)) s rc s' →
      Q (if rc ≠ rcOK then rcError else rcOK, dirFixed b) s') :
    Post F c (Adf.writeDirBlock v n b) s Q := by
  unfold Adf.writeDirBlock
  apply Post.bind; apply Post.write
  intro rc s' w; exact Post.pure (h rc s' w)

theorem Post.writeFileHdrBlock {b : Blk} {Q : RC × Blk → St → Prop}
    (h : ∀ rc s', WriteStep c v n (bytesOfBlk (withSum (fileHdrFixed b) F_checkSum)) s rc s' → Q (rc, fileHdrFixed b) s') :
    Post F c (Adf.writeFileHdrBlock v n b) s Q := by
  unfold Adf.writeFileHdrBlock
  apply Post.bind; apply Post.write
  intro rc s' w; exact Post.pure (h rc s' w)

theorem Post.writeFileExtBlock {b : Blk} {Q : RC × Blk → St → Prop}
    (h : ∀ rc s', WriteStep c v n (bytesOfBlk (withSum (fileExtFixed b) F_checkSum)) s rc s' → Q (rc, fileExtFixed b) s') :
    Post F c (Adf.writeFileExtBlock v n b) s Q := by
  unfold Adf.writeFileExtBlock
  apply Post.bind; apply Post.write
  intro rc s' w; exact Post.pure (h rc s' w)

theorem Post.writeDirCBlock {b : Blk} {Q : RC × Blk → St → Prop}
    (h : ∀ rc s', WriteStep c v n (bytesOfBlk (withSum ((b.setW F_type T_DIRC).setW F_headerKey n) F_checkSum)) s rc s' →
      Q (rc, (b.setW F_type T_DIRC).setW F_headerKey n) s') :
    Post F c (Adf.writeDirCBlock v n b) s Q := by
  unfold Adf.writeDirCBlock
  apply Post.bind; apply Post.write
  intro rc s' w; exact Post.pure (h rc s' w)

/-- the "fix-ups" of the three entry writers -/
inductive EntryFix : (Blk → Blk) → Prop
  | dir : EntryFix dirFixed
  | file : EntryFix fileHdrFixed
  | raw : EntryFix id

/-- an entry written to block `n` by the writer its type selects (`adfCreateEntry`, `adfRenameEntry`, undelete), then `k`
    (the `do` notation pushes the continuation into the branches): one block write of the entry as that writer normalises
    it, and `k` is given a status that says OK exactly when the write did -/
theorem writeEntryByType {α : Type} {e : Blk} {k : RC → Prog α} {Q : α → St → Prop}
    (h : ∀ fix rc rc' s', EntryFix fix → (rc' = rcOK ↔ rc = rcOK) →
      WriteStep c v n (bytesOfBlk (withSum (fix e) F_checkSum)) s rc s' → Post F c (k rc') s' Q) :
    Post F c (do
      let rc ← if e.secType = ST_DIR then do let (rc, _) ← writeDirBlock v n e; pure rc
               else if e.secType = ST_FILE then do let (rc, _) ← writeFileHdrBlock v n e; pure rc
               else writeEntryBlock v n e
      k rc) s Q := by
  refine Post.ite (fun _ => ?_) (fun _ => Post.ite (fun _ => ?_) (fun _ => ?_)) <;> apply Post.bind
  · refine Post.writeDirBlock fun rc _ w => ?_
    apply Post.bind
    exact Post.pure (h _ rc _ _ .dir (dirRc_ok rc) w)
  · refine Post.writeFileHdrBlock fun rc _ w => ?_
    apply Post.bind
    exact Post.pure (h _ rc _ _ .file Iff.rfl w)
  · exact Post.write fun rc _ w => h _ rc _ _ .raw Iff.rfl w

end

section
variable {F : Fault → Prop}

@[simp] theorem readFileExtBlock_reads (v n : Nat) : (readFileExtBlock v n).Uses Prim.reads F := by
  simp [readFileExtBlock, Prim.reads, Prim.noWrite, Prim.noSetMem]
@[simp] theorem readDirCBlock_reads (v n : Nat) : (readDirCBlock v n).Uses Prim.reads F := readFileExtBlock_reads v n
@[simp] theorem readEntryBlock_reads (v n : Nat) : (readEntryBlock v n).Uses Prim.reads F := by
  simp [readEntryBlock, Prim.reads, Prim.noWrite, Prim.noSetMem]

end

end Adf
