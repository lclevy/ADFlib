import AdfModel.Cache
/-!
# Reading a byte string through `slice` and after `putAt`

A field of a record is read with `getD`, `slice`, `getBE16` or `getBE32`; all four only look at a slice of the buffer.
`putAt` fixes the slice it writes and leaves alone what lies in front of it or behind it.
-/
namespace Adf

theorem getD_slice (b : Bytes) (off n k : Nat) (d : UInt8) (hk : k < n) : (slice b off n).getD k d = b.getD (off + k) d := by
  unfold slice
  rw [List.getD_eq_getElem?_getD, List.getD_eq_getElem?_getD, List.getElem?_take, if_pos hk, List.getElem?_drop]

theorem slice_slice (b : Bytes) (off n k len : Nat) (h : k + len ≤ n) : slice (slice b off n) k len = slice b (off + k) len := by
  unfold slice
  rw [List.drop_take, List.take_take, List.drop_drop, Nat.min_eq_left (Nat.le_sub_of_add_le' h)]

/-! In the next two the position comes with an equation, `rfl` at the calls, so that it can be written as the goal has
it: `ptr + 18`, not `ptr + 16 + 2`. -/

theorem getD_of_slice {r y : Bytes} {off n : Nat} (h : slice r off n = y) {i : Nat} (k : Nat) (hi : i = off + k) (hk : k < n) :
    r.getD i 0 = y.getD k 0 := by
  rw [hi, ← h, getD_slice _ _ _ _ _ hk]

theorem slice_of_slice {r y : Bytes} {off n : Nat} (h : slice r off n = y) {a : Nat} (k len : Nat) (ha : a = off + k)
    (hk : k + len ≤ n) : slice r a len = slice y k len := by
  rw [ha, ← h, slice_slice _ _ _ _ _ hk]

theorem getBE32_of_slice {r : Bytes} {off v : Nat} (h : slice r off 4 = be32 v) (hv : v < 4294967296) : getBE32 r off = v := by
  unfold getBE32
  rw [getD_of_slice (i := off) h 0 rfl (by decide), getD_of_slice h 1 rfl (by decide), getD_of_slice h 2 rfl (by decide),
    getD_of_slice h 3 rfl (by decide)]
  exact unbe32_be32 v hv

theorem getBE16_of_slice {r : Bytes} {off v : Nat} (h : slice r off 2 = be16 v) (hv : v < 65536) : getBE16 r off = v := by
  unfold getBE16
  rw [getD_of_slice (i := off) h 0 rfl (by decide), getD_of_slice h 1 rfl (by decide)]
  show (UInt8.ofNat (v / 256 % 256)).toNat * 256 + (UInt8.ofNat (v % 256)).toNat = v
  rw [UInt8.toNat_ofNat_of_lt' (Nat.mod_lt _ (by decide)), UInt8.toNat_ofNat_of_lt' (Nat.mod_lt _ (by decide)),
    Nat.mod_eq_of_lt (Nat.div_lt_of_lt_mul hv), Nat.div_add_mod']

theorem putAt_length {ra : Bytes} {off : Nat} {bs : Bytes} (h : off + bs.length ≤ ra.length) :
    (putAt ra off bs).length = ra.length := by
  unfold putAt
  rw [List.length_append, List.length_append, List.length_take_of_le (Nat.le_of_add_right_le h), List.length_drop,
    Nat.add_sub_cancel' h]

theorem slice_putAt_self {ra : Bytes} {off : Nat} {bs : Bytes} (hoff : off ≤ ra.length) :
    slice (putAt ra off bs) off bs.length = bs := by
  unfold slice putAt
  rw [List.append_assoc, List.drop_left' (List.length_take_of_le hoff), List.take_left' rfl]

theorem slice_putAt_out {ra : Bytes} {off : Nat} {bs : Bytes} {a len : Nat}
    (hlen : off + bs.length ≤ ra.length) (h : a + len ≤ off) : slice (putAt ra off bs) a len = slice ra a len := by
  have hl : (ra.take off).length = off := List.length_take_of_le (Nat.le_of_add_right_le hlen)
  unfold slice putAt
  rw [List.append_assoc, List.drop_append_of_le_length (by rw [hl]; exact Nat.le_of_add_right_le h),
    List.take_append_of_le_length (by rw [List.length_drop, hl]; exact Nat.le_sub_of_add_le' h), List.drop_take,
    List.take_take, Nat.min_eq_left (Nat.le_sub_of_add_le' h)]

theorem getD_putAt_out (ra : Bytes) (off : Nat) (bs : Bytes) (i : Nat) (d : UInt8)
    (hlen : off + bs.length ≤ ra.length) (h : i < off ∨ off + bs.length ≤ i) :
    (putAt ra off bs).getD i d = ra.getD i d := by
  have hl : (ra.take off).length = off := List.length_take_of_le (Nat.le_of_add_right_le hlen)
  unfold putAt
  rw [List.getD_eq_getElem?_getD, List.getD_eq_getElem?_getD, List.append_assoc]
  rcases h with h | h
  · rw [List.getElem?_append_left (by rw [hl]; exact h), List.getElem?_take_of_lt h]
  · rw [List.getElem?_append_right (by rw [hl]; exact Nat.le_of_add_right_le h), hl,
      List.getElem?_append_right (Nat.le_sub_of_add_le' h), List.getElem?_drop, Nat.sub_sub, Nat.add_sub_cancel' h]

end Adf
