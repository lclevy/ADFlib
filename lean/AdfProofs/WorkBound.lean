/-
  Work bounds for the walks of the read path (C11): the number of device accesses a walk performs is bounded by a
  quantity fixed BEFORE the walk starts (volume size, table size), whatever the blocks it reads contain — so cyclic
  chains cannot make it spin.  Work is measured by the device-access counter of the state.  (The bitmap loader is in
  `BitmapLoad.lean`.)
-/
import AdfProofs.Effects
import AdfModel.File
namespace Adf

section
variable {F : Fault → Prop} (c : Cfg) (v : Nat)

theorem nameToEntryBlkLoop_work (intl : Bool) (name : Bytes) : ∀ (fuel nSect upd : Nat) (s : St),
    Post F c (nameToEntryBlkLoop v intl name fuel nSect upd) s (fun _ s' => s'.ioCount ≤ s.ioCount + fuel) := by
  intro fuel
  induction fuel with
  | zero => intro n u s; exact Post.pure (Nat.le_refl _)
  | succ fuel ih =>
    intro n u s
    unfold nameToEntryBlkLoop
    apply Post.bind; apply Post.readEntryBlock
    intro rc e s' r _
    have out : s'.ioCount ≤ s.ioCount + (fuel + 1) := io_add r.io (Nat.le_add_right ..)
    refine Post.ite (fun _ => Post.pure out) fun _ => ?_
    refine Post.ite (fun _ => Post.pure out) fun _ => ?_
    refine Post.ite (fun _ => Post.pure out) fun _ => ?_
    exact (ih _ _ s').mono fun _ _ h => io_add r.io h

/-- the potential of the directory listing.  The 3: a unit of budget pays for the read of an entry block and for the 2 by
    which listing it as a subdirectory may raise the potential (`listChain_succ`) -/
def Phi (s : St) (budget : Nat) : Nat := s.ioCount + 3 * budget

/-- a walk that returns the budget it has left raised the potential by at most `k` -/
def Pot (k : Nat) (s : St) (budget : Nat) (r : Listing × Nat) (s' : St) : Prop := Phi s' r.2 ≤ Phi s budget + k

/-- a chain or a row of slots: the potential does not rise, except by 1 when the walk gives up -/
def ListOK (s : St) (budget : Nat) (r : Listing × Nat) (s' : St) : Prop :=
  (r.1.isSome → Pot 0 s budget r s') ∧ Pot 1 s budget r s'

section
variable {s s1 s' : St} {b b1 b' : Nat}

theorem Phi.zero_le (s : St) (b k : Nat) : Phi s 0 ≤ Phi s b + k :=
  Nat.le_trans (Nat.le_add_right _ (3 * b)) (Nat.le_add_right ..)

theorem Phi.io (h : s1.ioCount ≤ s.ioCount + 1) (b : Nat) : Phi s1 b ≤ Phi s b + 1 := by unfold Phi; omega

theorem Phi.spend {k : Nat} (h : s1.ioCount ≤ s.ioCount + k) (hb : b ≠ 0) : Phi s1 (b - 1) + 3 ≤ Phi s b + k := by
  unfold Phi; omega

theorem Pot.io {k : Nat} {r : Listing × Nat} (h : Pot k s b r s') : s'.ioCount ≤ s.ioCount + 3 * b + k :=
  Nat.le_trans (Nat.le_add_right ..) h

theorem ListOK.gaveUp (h : Phi s' b' ≤ Phi s b + 1) : ListOK s b (none, b') s' := ⟨fun hs => Bool.noConfusion hs, h⟩

theorem ListOK.went {l : Listing} (h : Phi s' b' ≤ Phi s b) : ListOK s b (l, b') s' := ⟨fun _ => h, Nat.le_succ_of_le h⟩

theorem ListOK.after {l l' : Listing} (x : ListOK s1 b1 (l, b') s') (h : Phi s1 b1 ≤ Phi s b)
    (hl : l'.isSome = l.isSome) : ListOK s b (l', b') s' :=
  ⟨fun hs => Nat.le_trans (x.1 (hl ▸ hs)) h, Nat.le_trans x.2 (Nat.add_le_add_right h 1)⟩

end

variable (recurs : Bool)

theorem listSlots_of_chain (depth : Nat) (parent : Blk) (fuel : Nat)
    (hchain : ∀ sect budget s, Post F c (listChain v recurs depth fuel sect budget) s (ListOK s budget)) :
    ∀ (cnt i budget : Nat) (s : St), Post F c (listSlots v recurs depth parent fuel cnt i budget) s (ListOK s budget) := by
  intro cnt
  induction cnt with
  | zero => intro i b s; unfold listSlots; exact Post.pure (.went (Nat.le_refl _))
  | succ cnt ih =>
    intro i b s
    unfold listSlots
    apply Post.bind
    refine (hchain _ _ s).mono ?_
    rintro ⟨l, b1⟩ s1 x
    cases l with
    | none => exact Post.pure x
    | some l =>
      apply Post.bind
      refine (ih _ _ s1).mono ?_
      rintro ⟨l2, b2⟩ s2 y
      cases l2 <;> exact Post.pure (y.after (x.1 rfl) rfl)

theorem listDir_succ (fuel : Nat)
    (hslots : ∀ depth parent cnt i budget s, Post F c (listSlots v recurs depth parent fuel cnt i budget) s (ListOK s budget))
    (depth sect budget : Nat) (s : St) :
    Post F c (listDir v recurs depth (fuel + 1) sect budget) s (Pot 2 s budget) := by
  unfold listDir
  refine Post.ite (fun _ => Post.pure (Phi.zero_le s budget 2)) fun _ => ?_
  apply Post.bind; apply Post.readEntryBlock
  intro rc parent s1 r _
  have h1 := Phi.io r.io budget
  refine Post.ite (fun _ => Post.pure (Nat.le_succ_of_le h1)) fun _ => ?_
  exact (hslots _ _ _ _ _ s1).mono fun _ _ x => Nat.le_trans x.2 (Nat.add_le_add_right h1 1)

theorem listChain_succ (fuel : Nat)
    (hchain : ∀ depth sect budget s, Post F c (listChain v recurs depth fuel sect budget) s (ListOK s budget))
    (hdir : ∀ depth sect budget s, Post F c (listDir v recurs depth fuel sect budget) s (Pot 2 s budget))
    (depth sect budget : Nat) (s : St) :
    Post F c (listChain v recurs depth (fuel + 1) sect budget) s (ListOK s budget) := by
  unfold listChain
  refine Post.ite (fun _ => Post.pure (.went (Nat.le_refl _))) fun _ => ?_
  refine Post.ite (fun _ => Post.pure (.gaveUp (Phi.zero_le s budget 1))) fun hb => ?_
  apply Post.bind; apply Post.readEntryBlock
  intro rc blk s1 r _
  refine Post.ite (fun _ => Post.pure (.gaveUp (Phi.io r.io budget))) fun _ => ?_
  apply Post.bind
  -- the block is paid for by one unit of budget, which also covers the 2 a subdirectory may add
  have paid : Phi s1 (budget - 1) + 2 ≤ Phi s budget := Nat.le_of_succ_le_succ (Phi.spend r.io hb)
  refine Post.mono (Q := fun (_, b2) s2 => Phi s2 b2 ≤ Phi s budget) ?_ ?_
  · exact Post.ite (fun _ => (hdir _ _ _ s1).mono fun _ _ h => Nat.le_trans h paid)
      fun _ => Post.pure (Nat.le_of_add_right_le paid)
  · rintro ⟨sub, b2⟩ s2 h
    refine Post.ite (fun _ => Post.pure (.gaveUp (Nat.le_trans (Phi.zero_le s2 b2 0) (Nat.le_succ_of_le h)))) fun _ => ?_
    apply Post.bind
    refine (hchain _ _ _ s2).mono ?_
    rintro ⟨l, b3⟩ s3 x
    cases l <;> exact Post.pure (x.after h rfl)

theorem listing_work : ∀ fuel : Nat,
    (∀ depth sect budget s, Post F c (listChain v recurs depth fuel sect budget) s (ListOK s budget)) ∧
    (∀ depth parent cnt i budget s, Post F c (listSlots v recurs depth parent fuel cnt i budget) s (ListOK s budget)) ∧
    (∀ depth sect budget s, Post F c (listDir v recurs depth fuel sect budget) s (Pot 2 s budget)) := by
  intro fuel
  induction fuel with
  | zero =>
    have hc : ∀ depth sect budget s, Post F c (listChain v recurs depth 0 sect budget) s (ListOK s budget) := by
      intro d se b s; unfold listChain
      exact Post.pure (.gaveUp (Phi.zero_le s b 1))
    refine ⟨hc, fun d p => listSlots_of_chain c v recurs d p 0 (hc d), fun d se b s => ?_⟩
    unfold listDir
    exact Post.pure (Phi.zero_le s b 2)
  | succ fuel ih =>
    obtain ⟨ihc, ihs, ihd⟩ := ih
    have hc := listChain_succ (F := F) c v recurs fuel ihc ihd
    exact ⟨hc, fun d p => listSlots_of_chain c v recurs d p (fuel + 1) (hc d), listDir_succ c v recurs fuel ihs⟩

theorem listCacheRecords_of (fuel : Nat)
    (hdir : ∀ depth dir budget s, Post F c (listDirCache v recurs depth fuel dir budget) s (Pot 1 s budget)) :
    ∀ (cnt depth dir : Nat) (ra : Bytes) (offset budget : Nat) (s : St),
      Post F c (listCacheRecords v recurs depth dir ra fuel cnt offset budget) s (Pot 0 s budget) := by
  intro cnt
  induction cnt with
  | zero => intro d dir ra off b s; unfold listCacheRecords; exact Post.pure (Nat.le_refl _)
  | succ cnt ih =>
    intro d dir ra off b s
    unfold listCacheRecords
    refine Post.ite (fun _ => Post.pure (Phi.zero_le s b 0)) fun hb => ?_
    have paid : Phi s (b - 1) + 3 ≤ Phi s b := Phi.spend (k := 0) (Nat.le_refl _) hb
    cases getCacheEntry ra off with
    | none => exact Post.pure (Nat.le_of_add_right_le paid)
    | some e =>
      apply Post.bind
      refine Post.mono (Q := fun (_, b2) s2 => Phi s2 b2 ≤ Phi s b) ?_ ?_
      · exact Post.ite (fun _ => (hdir _ _ _ s).mono fun _ _ h => Nat.le_trans (Nat.le_add_right _ 2) (Nat.le_trans
          (Nat.add_le_add_right h 2) paid)) fun _ => Post.pure (Nat.le_of_add_right_le paid)
      · rintro ⟨sub, b2⟩ s2 h
        refine Post.ite (fun _ => Post.pure (Nat.le_trans (Phi.zero_le s2 b2 0) h)) fun _ => ?_
        apply Post.bind
        refine (ih _ _ _ _ _ s2).mono ?_
        rintro ⟨l, b3⟩ s3 (g : Phi s3 b3 ≤ Phi s2 b2 + 0)
        cases l <;> exact Post.pure (Nat.le_trans g h)

theorem listCacheBlocks_succ (fuel : Nat)
    (hrec : ∀ cnt depth dir ra offset budget s,
      Post F c (listCacheRecords v recurs depth dir ra fuel cnt offset budget) s (Pot 0 s budget))
    (hblk : ∀ depth dir n budget s, Post F c (listCacheBlocks v recurs depth dir fuel n budget) s (Pot 0 s budget))
    (depth dir n budget : Nat) (s : St) :
    Post F c (listCacheBlocks v recurs depth dir (fuel + 1) n budget) s (Pot 0 s budget) := by
  unfold listCacheBlocks
  refine Post.ite (fun _ => Post.pure (Phi.zero_le s budget 0)) fun hb => ?_
  apply Post.bind; apply Post.readFileExtBlock
  intro rc dirc s1 r
  have h1 : Phi s1 (budget - 1) ≤ Phi s budget :=
    Nat.le_of_add_right_le (k := 2) (Nat.le_of_succ_le_succ (Phi.spend r.io hb))
  refine Post.ite (fun _ => Post.pure h1) fun _ => ?_
  apply Post.bind
  refine (hrec _ _ _ _ _ _ s1).mono ?_
  rintro ⟨l, b2⟩ s2 (g : Phi s2 b2 ≤ Phi s1 (budget - 1) + 0)
  have h2 := Nat.le_trans g h1
  cases l with
  | none => exact Post.pure h2
  | some l =>
    refine Post.ite (fun _ => Post.pure h2) fun _ => ?_
    apply Post.bind
    refine (hblk _ _ _ _ s2).mono ?_
    rintro ⟨l3, b3⟩ s3 (g3 : Phi s3 b3 ≤ Phi s2 b2 + 0)
    cases l3 <;> exact Post.pure (Nat.le_trans g3 h2)

theorem listDirCache_succ (fuel : Nat)
    (hblk : ∀ depth dir n budget s, Post F c (listCacheBlocks v recurs depth dir fuel n budget) s (Pot 0 s budget))
    (depth dir budget : Nat) (s : St) :
    Post F c (listDirCache v recurs depth (fuel + 1) dir budget) s (Pot 1 s budget) := by
  unfold listDirCache
  refine Post.ite (fun _ => Post.pure (Phi.zero_le s budget 1)) fun _ => ?_
  apply Post.bind; apply Post.readEntryBlock
  intro rc parent s1 r _
  have h1 := Phi.io r.io budget
  refine Post.ite (fun _ => Post.pure h1) fun _ => ?_
  exact (hblk _ _ _ _ s1).mono fun _ _ (h : Phi _ _ ≤ _ + 0) => Nat.le_trans h h1

theorem cache_listing_work : ∀ fuel : Nat,
    (∀ depth dir n budget s, Post F c (listCacheBlocks v recurs depth dir fuel n budget) s (Pot 0 s budget)) ∧
    (∀ depth dir budget s, Post F c (listDirCache v recurs depth fuel dir budget) s (Pot 1 s budget)) ∧
    (∀ cnt depth dir ra offset budget s,
      Post F c (listCacheRecords v recurs depth dir ra fuel cnt offset budget) s (Pot 0 s budget)) := by
  intro fuel
  induction fuel with
  | zero =>
    have hd : ∀ depth dir budget s, Post F c (listDirCache v recurs depth 0 dir budget) s (Pot 1 s budget) := by
      intro d dir b s; unfold listDirCache
      exact Post.pure (Phi.zero_le s b 1)
    refine ⟨fun d dir n b s => ?_, hd, listCacheRecords_of c v recurs 0 hd⟩
    unfold listCacheBlocks
    exact Post.pure (Phi.zero_le s b 0)
  | succ fuel ih =>
    obtain ⟨ihb, ihd, ihr⟩ := ih
    have hd := listDirCache_succ (F := F) c v recurs fuel ihb
    exact ⟨listCacheBlocks_succ c v recurs fuel ihr ihb, hd, listCacheRecords_of c v recurs (fuel + 1) hd⟩

end

end Adf
