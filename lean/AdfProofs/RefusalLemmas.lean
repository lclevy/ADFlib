/-
  Failed namespace calls change nothing (C02): removing or renaming a missing name, removing a non-empty directory or an
  unsupported entry, renaming onto an existing name — each fails having written nothing and leaving the library memory
  (hence the bitmap and the free-block count) untouched, for every chain layout on a healthy device.
-/
import AdfProofs.ChainLemmas
namespace Adf

/-- `hbad` covers every refusal of `adfRemoveEntry`: it is vacuous when the lookup finds nothing, and else asks for what
    cannot be removed, a directory that is not empty or an entry that is neither file nor directory -/
theorem removeEntry_refused {F : Fault → Prop} (c : Cfg) (v pSect : Nat) (parent : Blk) (name : Bytes)
    (chain : List (Nat × Blk)) (s : St)
    (hf : s.faultAt = none) (hpar : EntryAt c s.disk v pSect parent)
    (hch : ChainOn c s.disk v (parent.hash (hashName (useIntl (c.vol v).dosType) name)) chain)
    (hlen : chain.length ≤ (c.vol v).lastBlock - (c.vol v).firstBlock + 1)
    (hbad : ∀ n b p, lookupSpec (useIntl (c.vol v).dosType) name chain 0 zeroBlk = (some n, b, p) →
      (b.secType = ST_DIR ∧ isDirEmpty b = false) ∨ (b.secType ≠ ST_FILE ∧ b.secType ≠ ST_DIR)) :
    Post F c (removeEntry v pSect name) s (fun rc s' => rc = rcError ∧ Reads s s') := by
  unfold removeEntry
  apply Post.bind; apply Post.getVolCfg
  apply Post.bind
  unfold removeEntryUnlink
  apply Post.bind; apply Post.getVolCfg
  apply Post.bind; apply Post.readEntryAt hf hpar
  intro s1 r1
  refine Post.ite (fun h => absurd rfl h) (fun _ => ?_)
  apply Post.bind
  refine (nameToEntryBlk_lookup c v parent name chain s1 (r1.faultAt.trans hf) (r1.disk ▸ hch) hlen).mono ?_
  rintro ⟨ns, b, u⟩ s2 ⟨hr, r2⟩
  have stop : rcError = rcError ∧ Reads s s2 := ⟨rfl, r1.trans r2⟩
  -- `removeEntryUnlink` was unfolded inside the `bind` of `removeEntry`: its `return (rcError, none)` is followed by the
  -- `return rc` of the caller's `match`, hence two `Post.pure`
  cases ns with
  | none => exact Post.pure (Post.pure stop)
  | some n =>
    rcases hbad n b u hr.symm with ⟨hd, he⟩ | hne
    · exact Post.ite (fun _ => Post.pure (Post.pure stop)) (fun h => absurd ⟨hd, by rw [he]; rfl⟩ h)
    · refine Post.ite (fun _ => Post.pure (Post.pure stop)) (fun _ => ?_)
      exact Post.ite (fun _ => Post.pure (Post.pure stop)) (fun h => absurd hne h)

theorem renameDupWalk_spec {F : Fault → Prop} (c : Cfg) (v : Nat) (intl : Bool) (newName : Bytes) (self : Nat)
    (chain : List (Nat × Blk)) (fuel n : Nat) (s : St)
    (hlen : chain.length ≤ fuel) (hf : s.faultAt = none) (hch : ChainOn c s.disk v n chain) :
    Post F c (renameDupWalk v intl newName self fuel n) s (fun rc s' =>
      ((∃ e ∈ chain, e.1 ≠ self ∧ nameMatches intl newName e.2) → rc = rcError) ∧ Reads s s') := by
  refine Post.and ?_ (Post.reads (renameDupWalk_reads v intl newName self fuel n))
  induction chain generalizing fuel n s with
  | nil =>
    cases fuel with
    | zero => exact Post.ite (fun _ => Post.pure (by simp)) (fun h => absurd hch h)
    | succ fuel => exact Post.ite (fun _ => Post.pure (by simp)) (fun h => absurd hch h)
  | cons hd rest ih =>
    obtain ⟨m, b⟩ := hd
    obtain ⟨hn0, rfl, hent, hrest⟩ := hch
    cases fuel with
    | zero => exact absurd hlen (Nat.not_succ_le_zero _)
    | succ fuel =>
      unfold renameDupWalk
      refine Post.ite (fun h => absurd h hn0) (fun _ => ?_)
      apply Post.bind; apply Post.readEntryAt hf hent
      intro s' r
      refine Post.ite (fun h => absurd rfl h) (fun _ => ?_)
      refine Post.ite (fun hdup => Post.pure fun _ => rfl) (fun hdup => ?_)
      refine (ih fuel _ s' (Nat.le_of_succ_le_succ hlen) (r.faultAt.trans hf) (r.disk ▸ hrest)).mono ?_
      rintro rc _ h1 ⟨e, he, hme⟩
      rcases List.mem_cons.mp he with rfl | he
      · exact absurd ⟨hme.1, hme.2.1.symm, hme.2.2.symm⟩ hdup
      · exact h1 ⟨e, he, hme⟩

/-- **`adfRenameEntry` fails, having only read, when its lookup of the old name finds nothing, or finds block `n` while the
    destination chain holds another entry that carries the new name**.  Only in the second case does the call get as far
    as the free-block test (`hasFreeBlocks`), which may stop on a model fault: hence `∀ f, F f` inside `hbad` and not as a
    hypothesis of its own, so that the first case holds for every `F`, the empty one included.  The second case is stated
    for volumes without directory cache (with it the call additionally gives up when no block is free). -/
theorem renameEntry_refused {F : Fault → Prop} (c : Cfg) (v pSect nPSect : Nat) (parent : Blk) (oldName newName : Bytes)
    (chain : List (Nat × Blk)) (s : St)
    (hdiff : ¬ (pSect = nPSect ∧ oldName = newName))
    (hf : s.faultAt = none) (hpar : EntryAt c s.disk v pSect parent)
    (hch : ChainOn c s.disk v (parent.hash (hashName (useIntl (c.vol v).dosType) oldName)) chain)
    (hlen : chain.length ≤ (c.vol v).lastBlock - (c.vol v).firstBlock + 1)
    (hbad : ∀ n b p, lookupSpec (useIntl (c.vol v).dosType) oldName chain 0 zeroBlk = (some n, b, p) →
      (∀ f, F f) ∧ isDIRCACHE (c.vol v).dosType = false ∧ ∃ nParent chain2, EntryAt c s.disk v nPSect nParent ∧
        ChainOn c s.disk v (nParent.hash (hashName (useIntl (c.vol v).dosType) newName)) chain2 ∧
        chain2.length ≤ (c.vol v).lastBlock - (c.vol v).firstBlock + 1 ∧
        ∃ e ∈ chain2, e.1 ≠ n ∧ nameMatches (useIntl (c.vol v).dosType) newName e.2) :
    Post F c (renameEntry v pSect oldName nPSect newName) s (fun rc s' => rc = rcError ∧ Reads s s') := by
  unfold renameEntry
  refine Post.ite (fun h => absurd h hdiff) (fun _ => ?_)
  apply Post.bind; apply Post.getVolCfg
  apply Post.bind; apply Post.readEntryAt hf hpar
  intro s1 r1
  refine Post.ite (fun h => absurd rfl h) (fun _ => ?_)
  apply Post.bind
  refine (nameToEntryBlk_lookup c v parent oldName chain s1 (r1.faultAt.trans hf) (r1.disk ▸ hch) hlen).mono ?_
  rintro ⟨ns, b, u⟩ s2 ⟨hr, r2⟩
  have r12 := r1.trans r2
  cases ns with
  | none => exact Post.pure ⟨rfl, r12⟩
  | some n =>
    obtain ⟨hF, hnc, nParent, chain2, hnpar, hch2, hlen2, hex⟩ := hbad n b u hr.symm
    apply Post.bind
    refine (Post.reads ((hasFreeBlocks_reads v 1).mono (fun _ h => h) fun f _ => hF f)).mono ?_
    intro fb s3 r3
    have r13 := r12.trans r3
    refine Post.ite (fun h => absurd h.1 (Bool.eq_false_iff.mp hnc)) (fun _ => ?_)
    apply Post.bind; apply Post.readEntryAt (r13.faultAt.trans hf) (r13.disk ▸ hnpar)
    intro s4 r4
    have r14 := r13.trans r4
    refine Post.ite (fun h => absurd rfl h) (fun _ => ?_)
    apply Post.bind
    refine (renameDupWalk_spec c v _ newName n chain2 _ _ s4 hlen2 (r14.faultAt.trans hf) (r14.disk ▸ hch2)).mono ?_
    rintro rc5 s5 ⟨h1, r5⟩
    rw [h1 hex]
    exact Post.ite (fun _ => Post.pure ⟨rfl, r14.trans r5⟩) (fun h => absurd (by decide) h)

end Adf
