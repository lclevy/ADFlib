import AdfProofs.BitmapOrder
import AdfProofs.WriteReadLemmas
import AdfProofs.WriteSetLemmas
/-!
# The link step of `adfRemoveEntry` (`removeEntryUnlink`)

It looks the name up, refuses what is not removed and takes the entry out of its hash chain by ONE block write: of the
directory block with the name's slot replaced, or of the chain predecessor with its link replaced.  `UnlinkRun` says how
a call went — it stopped having only read, or it did that write: to which block, of which image, with which outcome — and
is proved of the program once, for every disk content and fault schedule.  The write set (C18) and, on a healthy device,
what the write leaves on the disk (C02: the entry is unlinked, the rest of its chain stays) are read off it.
-/
namespace Adf

/-- a block rewritten with exactly one word replaced (a hash-table slot or the chain link) and the checksum recomputed,
    relative to the block as it is on `disk` -/
def IsLinkWr (c : Cfg) (disk : Std.HashMap Nat Bytes) (v : Nat) (e : Ev) : Prop :=
  ∃ n k x st, e = Ev.wr (some v) (vsect c v n) 512
    (bytesOfBlk (withSum ((blkOfBytes ((disk.getD (vsect c v n) zeroBlock).take 512)).setW k x) F_checkSum)) st

/-- the device writes of `adfRemoveEntry` on a volume without directory cache (newest first): nothing; or ONE block — the
    directory or the chain predecessor — rewritten with one word changed, followed (if that write succeeded) by a
    bitmap update in its fixed order.  No other block is ever written: in particular no header, extension or data
    block of any other file, whichever access fails. -/
def RemoveWrites (c : Cfg) (disk : Std.HashMap Nat Bytes) (v : Nat) (W : List Ev) : Prop :=
  W = [] ∨ ∃ link bm, W = bm ++ [link] ∧ IsLinkWr c disk v link ∧ (link.status ≠ 0 → bm = []) ∧ BmOrder c v bm

/-- the device writes of the first half of `adfRemoveEntry` (`removeEntryUnlink`): nothing, or the one link block; the call
    goes on exactly when that write succeeded -/
def UnlinkW (c : Cfg) (disk : Std.HashMap Nat Bytes) (v : Nat) : Bool → List Ev → Prop
  | false, W => One (IsLinkWr c disk v) W
  | true, W => ∃ link, W = [link] ∧ IsLinkWr c disk v link ∧ link.status = 0

/-- **how a call of `removeEntryUnlink` went**, for every disk content and fault schedule -/
inductive UnlinkRun (c : Cfg) (v pSect : Nat) (name : Bytes) (s : St) : RC × Option (Blk × Blk × Nat) → St → Prop
  /-- it gave up before writing (a block cannot be read, the name is not there, the entry is not one that is removed):
      only reads happened -/
  | stopped {rc : RC} {s' : St} (reads : Reads s s') : UnlinkRun c v pSect name s (rc, none) s'
  /-- the ONE write: block `k` — the directory if nothing precedes the entry in its chain, else the predecessor — gets what
      the disk holds there with word `j` — the name's slot, the chain link — set to the entry's chain link; the call goes
      on exactly when the write succeeded -/
  | link {parent entry : Blk} {n prev k j : Nat} {rc : RC} {s1 s2 s' : St}
      (look : LookedUp c v pSect name s parent n entry prev s1) (reads : Reads s s2)
      (target : if prev = 0 then k = pSect ∧ j = F_table + hashName (useIntl (c.vol v).dosType) name
        else k = prev ∧ j = F_nextSameHash)
      (w : WriteStep c v k (bytesOfBlk (withSum
        ((blkOfBytes ((s.disk.getD (vsect c v k) zeroBlock).take 512)).setW j (entry.w F_nextSameHash)) F_checkSum)) s2 rc s') :
      UnlinkRun c v pSect name s (rc, if rc = rcOK then some (parent, entry, n) else none) s'

theorem removeEntryUnlink_run (c : Cfg) (v pSect : Nat) (name : Bytes) (s : St) :
    Post AnyFault c (removeEntryUnlink v pSect name) s (UnlinkRun c v pSect name s) := by
  unfold removeEntryUnlink
  apply Post.bind; apply Post.getVolCfg
  refine lookup_found (fun _ _ => .stopped) (fun _ => .stopped) fun _ parent entry prev nSect s1 look => ?_
  refine Post.ite (fun _ => Post.pure (.stopped look.reads)) (fun _ => ?_)
  refine Post.ite (fun _ => Post.pure (.stopped look.reads)) (fun _ => ?_)
  -- the write of block `k`: its struct `e` is what the disk holds there, with word `j` replaced
  have linkwr : ∀ {k j e s2}, Reads s s2 →
      (if prev = 0 then k = pSect ∧ j = F_table + hashName (useIntl (c.vol v).dosType) name else k = prev ∧ j = F_nextSameHash) →
      e = (blkOfBytes ((s.disk.getD (vsect c v k) zeroBlock).take 512)).setW j (entry.w F_nextSameHash) →
      Post AnyFault c (do
          let rc ← writeEntryBlock v k e
          if rc ≠ rcOK then pure (rc, none) else pure (rcOK, some (parent, entry, nSect)) :
            Prog (RC × Option (Blk × Blk × Nat))) s2 (UnlinkRun c v pSect name s) := by
    intro k j e s2 r2 target he
    apply Post.bind; apply Post.write
    intro rc s' w
    have h := UnlinkRun.link look r2 target (he ▸ w)
    refine Post.ite (fun hne => Post.pure ?_) (fun hk => Post.pure ?_)
    · rwa [if_neg hne] at h
    · obtain rfl := Classical.not_not.mp hk
      exact h
  refine Post.ite (fun h0 => ?_) (fun h0 => ?_)
  · exact linkwr look.reads ((if_pos h0).mpr ⟨rfl, rfl⟩) (look.parent_eq ▸ rfl)
  apply Post.bind; apply Post.readEntryBlock
  intro rcp previous s2 r2 _
  have q2 := look.reads.trans r2.reads
  refine Post.ite (fun _ => Post.pure (.stopped q2)) (fun hk => ?_)
  exact linkwr q2 ((if_neg h0).mpr ⟨rfl, rfl⟩) (by rw [r2.ok (Classical.not_not.mp hk), look.reads.sector]; rfl)

section
variable {c : Cfg} {v pSect : Nat} {name : Bytes} {s s' : St} {r : RC × Option (Blk × Blk × Nat)}

theorem UnlinkRun.writeSet (h : UnlinkRun c v pSect name s r s') : ∃ W, Wrote s s' W ∧ UnlinkW c s.disk v r.2.isSome W := by
  cases h with
  | stopped reads => exact ⟨[], reads.wrote, .inl rfl⟩
  | @link _ _ _ _ k j rc _ _ _ _ reads _ w =>
    have q2 := reads.toNoWrite
    by_cases hk : rc = rcOK
    · rw [if_pos hk]
      exact ⟨[_], q2.then_wrote (w.wrote_ok hk), _, rfl, ⟨k, j, _, 0, rfl⟩, rfl⟩
    · rw [if_neg hk]
      obtain ⟨W, hW, h1⟩ := w.one (P := IsLinkWr c s.disk v) fun st => ⟨k, j, _, st, rfl⟩
      exact ⟨W, q2.then_wrote hW, h1⟩

end

/-- the write of `UnlinkRun.link` on a healthy, writable volume, block `k` holding the valid entry block `blk` when the call
    began and `j` not being the type word: `k`, and nothing else, now holds `blk` with word `j` replaced -/
theorem WriteStep.rewrote_setW {c : Cfg} {v k j x : Nat} {blk : Blk} {s0 s s' : St} {rc : RC}
    (w : WriteStep c v k (bytesOfBlk (withSum
      ((blkOfBytes ((s0.disk.getD (vsect c v k) zeroBlock).take 512)).setW j x) F_checkSum)) s rc s')
    (r : Reads s0 s) (hf : s0.faultAt = none) (hrw : (c.vol v).readOnly = false) (hE : EntryAt c s0.disk v k blk)
    (hj : j ≠ F_type) : Rewrote c v k (· = withSum (blk.setW j x) F_checkSum) s0.disk s' :=
  r.disk ▸ ((hE.sector ▸ w).rewrote (P := (· = withSum (blk.setW j x) F_checkSum)) (r.faultAt.trans hf) hE.1 hrw
    (setW_wf hE.wf) ((Blk.w_setW_ne hj).trans hE.type) rfl).2

end Adf
