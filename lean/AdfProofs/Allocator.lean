import AdfProofs.BitmapLemmas
import AdfProofs.Hoare
/-!
# The allocator (`adfIsBlockFree`, `adfSetBlockUsed`, `adfSetBlockFree`, `adfGetFreeBlocks`) and the free map (C05, C08)

One rule per allocator call, handing over everything the call does: these calls never touch the device, so the state
afterwards is the state before with another memory `m`, and `Marked` says what `m` is.  The rules are stated under
`AnyFault`: a block number outside the table is the model fault `oob` (C indexes the table unchecked).  The free map — the function "is
block k free?" over the whole volume — is what the no-leak statements are about: "no block leaked, none released by
mistake".  `UsedAll` and `Part` are the invariants that follow it through a call that marks blocks and may give them back.
-/
namespace Adf

/-- the free maps of volume `v` in two memories agree on every block `k ≥ 2` (the bitmap has no bit for blocks 0 and 1) -/
def FreeMapEq (v : Nat) (m m' : Mem) : Prop :=
  ∀ k, 2 ≤ k → bmIsFree (m'.vol v).bitmapTable k = bmIsFree (m.vol v).bitmapTable k

theorem FreeMapEq.of_table_eq {v : Nat} {m m' : Mem} (h : (m'.vol v).bitmapTable = (m.vol v).bitmapTable) :
    FreeMapEq v m m' := fun _ _ => by rw [h]

/-- the free map changed by exactly "block `b` taken" (or not at all, for `none`) -/
def FreeMapStep (v : Nat) (m m' : Mem) : Option Nat → Prop
  | none => FreeMapEq v m m'
  | some b => 2 ≤ b ∧ bmIsFree (m.vol v).bitmapTable b = true ∧ bmIsFree (m'.vol v).bitmapTable b = false ∧
      ∀ k, 2 ≤ k → k ≠ b → bmIsFree (m'.vol v).bitmapTable k = bmIsFree (m.vol v).bitmapTable k

theorem Post.isBlockFree {c : Cfg} {v n : Nat} {s : St} {Q : Bool → St → Prop}
    (h : Q (bmIsFree (s.mem.vol v).bitmapTable n) s) : Post AnyFault c (Adf.isBlockFree v n) s Q := by
  unfold Adf.isBlockFree
  apply Post.bind; apply Post.getVolMem
  refine Post.ite (fun _ => ?_) (fun _ => Post.pure h)
  apply Post.bind; exact Post.fault trivial

/-- what `adfSetBlockUsed` (`free = false`) and `adfSetBlockFree` (`free = true`) make of the library's memory when they
    return: `b` is a block the table of volume `v` holds, and its bit now says `free` -/
structure Marked (v b : Nat) (free : Bool) (m m' : Mem) : Prop where
  ge : 2 ≤ b
  page : (b - 2) / BM_PAGE_BLOCKS < (m.vol v).bitmapTable.length
  table : (m'.vol v).bitmapTable = bmSetWord (m.vol v).bitmapTable b free

section
variable {c : Cfg} {v b : Nat} {s : St}

/-- both calls are this program; an index outside the table is the model fault `oob` -/
theorem Post.markBlock {free : Bool} {msg : String} {Q : Unit → St → Prop}
    (h : ∀ m, Marked v b free s.mem m → Q () { s with mem := m }) :
    Post AnyFault c (do
      let vm ← Adf.getVolMem v
      if !bmInTable vm b then Adf.fault (.oob msg)
      Adf.setVolMem v { vm with bitmapTable := bmSetWord vm.bitmapTable b free,
                                bitmapChg := vm.bitmapChg.set ((b - 2) / BM_PAGE_BLOCKS) true }) s Q := by
  apply Post.bind; apply Post.getVolMem
  refine Post.ite (fun _ => ?_) (fun hin => ?_)
  · apply Post.bind; exact Post.fault trivial
  · have hin : ((s.mem.vol v).hasBitmap = true ∧ 2 ≤ b) ∧ (b - 2) / BM_PAGE_BLOCKS < (s.mem.vol v).bitmapTable.length := by
      simpa only [bmInTable, Bool.not_eq_true', Bool.not_eq_false, Bool.and_eq_true, decide_eq_true_eq] using hin
    exact Post.setVolMem (h _ ⟨hin.1.2, hin.2, by rw [Mem.vol_setVol]⟩)

theorem Post.setBlockUsed {Q : Unit → St → Prop} (h : ∀ m, Marked v b false s.mem m → Q () { s with mem := m }) :
    Post AnyFault c (Adf.setBlockUsed v b) s Q := Post.markBlock h

theorem Post.setBlockFree {Q : Unit → St → Prop} (h : ∀ m, Marked v b true s.mem m → Q () { s with mem := m }) :
    Post AnyFault c (Adf.setBlockFree v b) s Q := Post.markBlock h

end

section
variable {v b : Nat} {free : Bool} {m m' : Mem}

theorem Marked.wf (h : Marked v b free m m') (hwf : TableWF (m.vol v).bitmapTable) : TableWF (m'.vol v).bitmapTable :=
  h.table ▸ bmSetWord_wf _ _ _ hwf

theorem Marked.length (h : Marked v b free m m') : (m'.vol v).bitmapTable.length = (m.vol v).bitmapTable.length :=
  h.table ▸ bmSetWord_length ..

theorem Marked.same (h : Marked v b free m m') (hwf : TableWF (m.vol v).bitmapTable) :
    bmIsFree (m'.vol v).bitmapTable b = free := by
  rw [h.table, bmIsFree_set_same _ _ _ hwf h.page]

theorem Marked.other (h : Marked v b free m m') (hwf : TableWF (m.vol v).bitmapTable) {k : Nat} (hk : 2 ≤ k) (hne : b ≠ k) :
    bmIsFree (m'.vol v).bitmapTable k = bmIsFree (m.vol v).bitmapTable k := by
  rw [h.table, bmIsFree_set_other _ _ _ _ hwf h.ge hk hne h.page]

end

/-- the scan `adfGetFreeBlocks` runs on volume `v` for `nb` blocks: from the root block once around the volume -/
def freeScan (c : Cfg) (v : Nat) (m : Mem) (nb : Nat) : List Nat :=
  scanFree (m.vol v).bitmapTable (c.vol v).rootBlock ((c.vol v).lastBlock - (c.vol v).firstBlock)
    ((c.vol v).lastBlock - (c.vol v).firstBlock + 2) (c.vol v).rootBlock nb

theorem freeScan_free {c : Cfg} {v : Nat} {m : Mem} {nb b : Nat} (h : b ∈ freeScan c v m nb) :
    bmIsFree (m.vol v).bitmapTable b = true := by
  rw [freeScan, scanFree_eq] at h
  exact (List.mem_filter.mp (List.mem_of_mem_take h)).2

/-- the allocator's scan finds no free block on volume `v` -/
def VolFull (c : Cfg) (v : Nat) (m : Mem) : Prop :=
  (scanFree (m.vol v).bitmapTable (c.vol v).rootBlock ((c.vol v).lastBlock - (c.vol v).firstBlock)
    ((c.vol v).lastBlock - (c.vol v).firstBlock + 2) (c.vol v).rootBlock 1).length ≠ 1

/-- the scan does not find two free blocks — so in particular when none is free (`C08_full_means_no_pair`) -/
def VolFull2 (c : Cfg) (v : Nat) (m : Mem) : Prop :=
  (scanFree (m.vol v).bitmapTable (c.vol v).rootBlock ((c.vol v).lastBlock - (c.vol v).firstBlock)
    ((c.vol v).lastBlock - (c.vol v).firstBlock + 2) (c.vol v).rootBlock 2).length ≠ 2

section
variable {c : Cfg} {v : Nat} {s : St}

/-- the library's memory after the blocks of `l` have been marked used, one after the other -/
def MarkedAll (v : Nat) : List Nat → Mem → Mem → Prop
  | [], m, m' => m' = m
  | b :: l, m, m' => ∃ m1, Marked v b false m m1 ∧ MarkedAll v l m1 m'

/-- `adfGetFreeBlocks`: a scan that comes back short changes nothing; else the blocks found are marked used, in order -/
theorem Post.getFreeBlocks {nb : Nat} {Q : Option (List Nat) → St → Prop}
    (hnone : (freeScan c v s.mem nb).length ≠ nb → Q none s)
    (hsome : (freeScan c v s.mem nb).length = nb → ∀ m, MarkedAll v (freeScan c v s.mem nb) s.mem m →
      Q (some (freeScan c v s.mem nb)) { s with mem := m }) :
    Post AnyFault c (Adf.getFreeBlocks v nb) s Q := by
  have loop : ∀ (l : List Nat) (s1 : St) (R : St → Prop), (∀ m, MarkedAll v l s1.mem m → R { s1 with mem := m }) →
      Post AnyFault c (forIn l PUnit.unit fun b _ => do Adf.setBlockUsed v b; Pure.pure (ForInStep.yield PUnit.unit)) s1
        (fun _ => R) := by
    intro l
    induction l with
    | nil => exact fun s1 R h => Post.pure (h _ rfl)
    | cons b l ih =>
      intro s1 R h
      rw [List.forIn_cons]
      apply Post.bind; apply Post.bind; apply Post.setBlockUsed
      intro m1 k
      exact Post.pure (ih _ R fun m hm => h m ⟨m1, k, hm⟩)
  unfold Adf.getFreeBlocks
  apply Post.bind; apply Post.getVolCfg
  apply Post.bind; apply Post.getVolMem
  refine Post.ite (fun _ => ?_) (fun _ => Post.ite (fun hl => ?_) (fun hl => Post.pure (hnone hl)))
  · apply Post.bind; exact Post.fault trivial
  · apply Post.bind
    exact loop _ s _ fun m hm => Post.pure (hsome hl m hm)

theorem Post.get1FreeBlock {Q : Option Nat → St → Prop} (hnone : VolFull c v s.mem → Q none s)
    (hsome : ∀ b m, freeScan c v s.mem 1 = [b] → Marked v b false s.mem m → Q (some b) { s with mem := m }) :
    Post AnyFault c (Adf.get1FreeBlock v) s Q := by
  unfold Adf.get1FreeBlock
  apply Post.bind
  refine Post.getFreeBlocks (fun h => Post.pure (hnone h)) fun hlen m hm => ?_
  obtain ⟨b, hb⟩ := List.length_eq_one_iff.mp hlen
  rw [hb] at hm ⊢
  obtain ⟨_, k, rfl⟩ := hm
  exact Post.pure (hsome b _ hb k)

end

/-- the table of volume `v` is well formed, and every block of `U` is a block number of its range that the free map has
    allocated -/
def UsedAll (v : Nat) (U : List Nat) (m : Mem) : Prop :=
  TableWF (m.vol v).bitmapTable ∧ ∀ k ∈ U, 2 ≤ k ∧ bmIsFree (m.vol v).bitmapTable k = false

theorem UsedAll.of_table_eq {v : Nat} {U : List Nat} {m m' : Mem} (h : UsedAll v U m)
    (ht : (m'.vol v).bitmapTable = (m.vol v).bitmapTable) : UsedAll v U m' := by
  unfold UsedAll at *; rw [ht]; exact h

theorem UsedAll.sub {v : Nat} {U U' : List Nat} {m : Mem} (h : UsedAll v U m) (hs : ∀ k ∈ U', k ∈ U) : UsedAll v U' m :=
  ⟨h.1, fun k hk => h.2 k (hs k hk)⟩

theorem UsedAll.mark {v b : Nat} {U : List Nat} {m m' : Mem} (h : UsedAll v U m) (hb : Marked v b false m m') :
    UsedAll v (U ++ [b]) m' := by
  refine ⟨hb.wf h.1, fun k hk => ?_⟩
  by_cases hkb : b = k
  · exact ⟨hkb ▸ hb.ge, hkb ▸ hb.same h.1⟩
  · have hkU := h.2 k ((List.mem_append.mp hk).resolve_right fun hk => hkb (List.mem_singleton.mp hk).symm)
    exact ⟨hkU.1, (hb.other h.1 hkU.1 hkb).trans hkU.2⟩

/-- the state of volume `v`'s free map in the middle of a call that marks blocks and may give them back (create, undelete):
    the blocks of `M` were free when the call began (table `T0`) and have been marked; those of them in `F` have been given
    back; every other block is as it was.  When all of `M` is in `F` the free map is what it was (`Part.done`). -/
def Part (v : Nat) (T0 : List Blk) (M F : List Nat) (m : Mem) : Prop :=
  TableWF (m.vol v).bitmapTable ∧ (m.vol v).bitmapTable.length = T0.length ∧
  (∀ k ∈ M, 2 ≤ k ∧ (k - 2) / BM_PAGE_BLOCKS < T0.length ∧ bmIsFree T0 k = true) ∧
  (∀ k, 2 ≤ k → (k ∈ F ∨ k ∉ M) → bmIsFree (m.vol v).bitmapTable k = bmIsFree T0 k) ∧
  (∀ k ∈ M, k ∉ F → bmIsFree (m.vol v).bitmapTable k = false)

theorem Part.init (v : Nat) (m : Mem) (hwf : TableWF (m.vol v).bitmapTable) : Part v (m.vol v).bitmapTable [] [] m :=
  ⟨hwf, rfl, nofun, fun _ _ _ => rfl, nofun⟩

theorem Part.of_table_eq {v : Nat} {T0 : List Blk} {M F : List Nat} {m m' : Mem} (h : Part v T0 M F m)
    (ht : (m'.vol v).bitmapTable = (m.vol v).bitmapTable) : Part v T0 M F m' := by
  unfold Part at *; rw [ht]; exact h

theorem Part.usedAll {v : Nat} {T0 : List Blk} {M : List Nat} {m : Mem} (h : Part v T0 M [] m) : UsedAll v M m :=
  ⟨h.1, fun k hk => ⟨(h.2.2.1 k hk).1, h.2.2.2.2 k hk List.not_mem_nil⟩⟩

theorem Part.mark {v : Nat} {T0 : List Blk} {M : List Nat} {m m' : Mem} {b : Nat} (h : Part v T0 M [] m)
    (hfree : bmIsFree (m.vol v).bitmapTable b = true) (hb : Marked v b false m m') : Part v T0 (M ++ [b]) [] m' := by
  have hu := h.usedAll.mark hb
  obtain ⟨h1, hl, h3, h4, h5⟩ := h
  have hbM : b ∉ M := fun hb => by rw [h5 b hb List.not_mem_nil] at hfree; cases hfree
  have hmem : ∀ k, k ∈ M ++ [b] ↔ k ∈ M ∨ k = b := fun k => by rw [List.mem_append, List.mem_singleton]
  refine ⟨hu.1, hb.length.trans hl, fun k hk => ?_, fun k hk hor => ?_, fun k hk _ => (hu.2 k hk).2⟩
  · rcases (hmem k).mp hk with hk | rfl
    · exact h3 k hk
    · exact ⟨hb.ge, hl ▸ hb.page, (h4 k hb.ge (.inr hbM)).symm.trans hfree⟩
  · have hnM : k ∉ M ++ [b] := hor.resolve_left List.not_mem_nil
    rw [hb.other h1 hk fun e => hnM ((hmem k).mpr (.inr e.symm))]
    exact h4 k hk (.inr fun e => hnM ((hmem k).mpr (.inl e)))

theorem Part.unmark {v : Nat} {T0 : List Blk} {M F : List Nat} {m m' : Mem} {b : Nat} (h : Part v T0 M F m)
    (hb : b ∈ M) (k : Marked v b true m m') : Part v T0 M (b :: F) m' := by
  obtain ⟨h1, hl, h3, h4, h5⟩ := h
  refine ⟨k.wf h1, k.length.trans hl, h3, fun j hj hor => ?_, fun j hjM hjF => ?_⟩
  · by_cases hjb : b = j
    · rw [← hjb, k.same h1, (h3 b hb).2.2]
    · rw [k.other h1 hj hjb]
      exact h4 j hj (hor.imp_left fun hF => (List.mem_cons.mp hF).resolve_left fun e => hjb e.symm)
  · rw [k.other h1 (h3 j hjM).1 fun e => hjF (e ▸ List.mem_cons_self)]
    exact h5 j hjM fun e => hjF (List.mem_cons_of_mem _ e)

theorem Part.done {v : Nat} {m0 m : Mem} {M F : List Nat} (h : Part v (m0.vol v).bitmapTable M F m)
    (hall : ∀ k ∈ M, k ∈ F) : FreeMapEq v m0 m := fun k hk =>
  h.2.2.2.1 k hk (Classical.byCases (fun hkM : k ∈ M => .inl (hall k hkM)) .inr)

theorem Part.step {v b : Nat} {m0 m : Mem} (h : Part v (m0.vol v).bitmapTable [b] [] m) : FreeMapStep v m0 m (some b) :=
  have hb := h.2.2.1 b List.mem_cons_self
  ⟨hb.1, hb.2.2, h.2.2.2.2 b List.mem_cons_self List.not_mem_nil,
    fun k hk hne => h.2.2.2.1 k hk (.inr fun hm => hne (List.mem_singleton.mp hm))⟩

/-- `hm` is what `CreateAtRun.mem` says of undelete's link step: the memory is kept, or the failed link released `b` itself -/
theorem Part.of_released {v b : Nat} {T0 : List Blk} {M F : List Nat} {m m' : Mem} (h : Part v T0 M F m) (hb : b ∈ M)
    (hm : m' = m ∨ Marked v b true m m') : ∃ F', Part v T0 M F' m' :=
  hm.elim (fun e => ⟨F, e ▸ h⟩) (fun k => ⟨b :: F, h.unmark hb k⟩)

end Adf
