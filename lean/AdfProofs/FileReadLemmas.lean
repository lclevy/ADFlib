/-
  The file cursor on the read path (C06, C10, C19): what a handle's buffer and extension-block cursor are allowed to be
  between calls, and the one function that moves the cursor forward, `adfFileReadNextBlock`.
-/
import AdfProofs.BlockIO
import AdfModel.File
namespace Adf

/-- the parts of a handle `adfFileReadNextBlock` never changes -/
def Kept (h h' : FileH) : Prop :=
  h'.modeWrite = h.modeWrite ∧ h'.modeRead = h.modeRead ∧ h'.hdr = h.hdr ∧ h'.changed = h.changed ∧
  h'.posInDataBlk = h.posInDataBlk ∧ h'.vol = h.vol

/-- the parts of a handle no seek and no read changes -/
def Same (h h' : FileH) : Prop := h'.modeWrite = h.modeWrite ∧ h'.vol = h.vol ∧ h'.hdr = h.hdr ∧ h'.modeRead = h.modeRead

theorem Same.refl (h : FileH) : Same h h := ⟨rfl, rfl, rfl, rfl⟩
theorem Same.trans {a b c : FileH} (h1 : Same a b) (h2 : Same b c) : Same a c :=
  ⟨h2.1.trans h1.1, h2.2.1.trans h1.2.1, h2.2.2.1.trans h1.2.2.1, h2.2.2.2.trans h1.2.2.2⟩
theorem Same.byteSize {h h' : FileH} (hs : Same h h') : h'.byteSize = h.byteSize := by
  unfold FileH.byteSize; rw [hs.2.2.1]
theorem Kept.same {h h' : FileH} (k : Kept h h') : Same h h' := ⟨k.1, k.2.2.2.2.2, k.2.2.1, k.2.1⟩

/-- the handle's buffer is, byte for byte, the disk content of the block the handle says it holds -/
def Loaded (c : Cfg) (disk : Std.HashMap Nat Bytes) (h : FileH) : Prop :=
  h.curData = padTo ((disk.getD (vsect c h.vol h.curDataPtr) zeroBlock).take 512) 512 ∧ h.curDataPtr ≠ 0

/-- either the handle holds no block (`curDataPtr = 0`) or what it holds is loaded -/
def BufValid (c : Cfg) (disk : Std.HashMap Nat Bytes) (h : FileH) : Prop :=
  h.curDataPtr ≠ 0 → Loaded c disk h

/-- what a seek or a read leaves of `BufValid` (`SeekPost.buf`, `ReadPost.buf`).  The exception: `adfFileSeekExt` has put
    a data-block pointer < 2 (or negative as a `SECTNUM`) into the handle and reported an error, the buffer still being
    the old block's — hostile images only -/
def Weak (c : Cfg) (disk : Std.HashMap Nat Bytes) (h : FileH) : Prop :=
  BufValid c disk h ∨ sectLt2 h.curDataPtr = true

section
variable {c : Cfg} {disk : Std.HashMap Nat Bytes} {h : FileH} {s s' : St} {r : RC × FileH}

theorem BufValid.of_zero (h0 : h.curDataPtr = 0) : BufValid c disk h := fun hne => absurd h0 hne

/-- a block pointer the read path accepts: neither a boot block nor negative as a `SECTNUM` -/
theorem sectLt2_false {n : Nat} (h : sectLt2 n = false) : 2 ≤ n ∧ n < 2147483648 := by
  unfold sectLt2 at h
  rw [Bool.or_eq_false_iff, decide_eq_false_iff_not, decide_eq_false_iff_not] at h
  exact ⟨Nat.le_of_not_lt h.1, Nat.lt_of_not_le h.2⟩

/-- the extension-block cursor of a handle is usable: on FFS, once the handle is past the 72 blocks listed in the
    file header, an extension block is loaded and the slot index is inside it -/
def ExtOK (c : Cfg) (h : FileH) : Prop :=
  isOFSvol (c.vol h.vol) = false → 72 < h.nDataBlock → h.curExt.isSome = true ∧ h.posInExtBlk ≤ 72

/-- between calls a handle may hold no block at all (`curDataPtr = 0`: a seek or read failed, the next access re-seeks);
    otherwise its extension cursor is usable -/
def ExtW (c : Cfg) (h : FileH) : Prop := h.curDataPtr = 0 ∨ ExtOK c h

theorem ExtOK.of_le (hn : h.nDataBlock ≤ 72) : ExtOK c h := fun _ hgt => absurd hgt (Nat.not_lt.mpr hn)

theorem ExtOK.of_some (hs : h.curExt.isSome = true) (hp : h.posInExtBlk ≤ 72) : ExtOK c h := fun _ _ => ⟨hs, hp⟩

/-- what `adfFileReadNextBlock` does, for every handle, disk content and fault schedule: on failure the cursor does not
    move; on success the buffer is the disk content of the block it says it holds -/
structure NextBlock (c : Cfg) (h : FileH) (s : St) (r : RC × FileH) (s' : St) : Prop where
  reads : Reads s s'
  kept : Kept h r.2
  fail : r.1 ≠ rcOK →
    r.2.nDataBlock = h.nDataBlock ∧ r.2.curData = h.curData ∧ r.2.curDataPtr = h.curDataPtr ∧ r.2.pos = h.pos
  ok : r.1 = rcOK → r.2.nDataBlock = h.nDataBlock + 1 ∧ r.2.pos = h.pos ∧
    r.2.curData = padTo ((s.sector (vsect c h.vol r.2.curDataPtr)).take 512) 512 ∧ sectLt2 r.2.curDataPtr = false
  ext : ExtOK c h → ExtOK c r.2

theorem Loaded.of_sector (hd : s.disk = disk)
    (hdata : h.curData = padTo ((s.sector (vsect c h.vol h.curDataPtr)).take 512) 512)
    (hp : sectLt2 h.curDataPtr = false) : Loaded c disk h :=
  ⟨by rw [hdata, St.sector, hd], Nat.ne_zero_of_lt (sectLt2_false hp).1⟩

theorem NextBlock.loaded (n : NextBlock c h s r s') (hd : s.disk = disk) (hk : r.1 = rcOK) : Loaded c disk r.2 :=
  .of_sector hd (by rw [n.kept.same.2.1]; exact (n.ok hk).2.2.1) (n.ok hk).2.2.2

end

/-- the handle after the block was located is `h` with, at most, another extension cursor -/
def CursorOf (h h1 : FileH) : Prop := ∃ e p, h1 = { h with curExt := e, posInExtBlk := p }

theorem CursorOf.refl (h : FileH) : CursorOf h h := ⟨_, _, rfl⟩

/-- One statement for two uses.  The fault set `NoOobIf (ExtOK c h)` tolerates every fault when the cursor is not usable,
    and every fault but the out-of-bounds ones when it is.  So `NextBlock` holds of EVERY handle (`Post.anyFault`: C06,
    C19), and a caller that has `ExtOK c h` gets memory safety, `NoOob`, by `Post.noOob` (C10).  In the proof a
    `Post.fault` step is met by refuting `ExtOK c h`. -/
theorem fileReadNextBlock_spec (c : Cfg) (h : FileH) (s : St) :
    Post (NoOobIf (ExtOK c h)) c (fileReadNextBlock h) s (NextBlock c h s) := by
  unfold fileReadNextBlock
  apply Post.bind; apply Post.getVolCfg
  apply Post.bind
  -- the block is located: beyond the header's table (FFS) it comes from a slot of a loaded extension block
  refine Post.mono (Q := fun (rc, h1, _, fromExt) s1 => Reads s s1 ∧ CursorOf h h1 ∧ (ExtOK c h → ExtOK c h1) ∧
      (rc = rcOK → isOFSvol (c.vol h.vol) = false → 72 ≤ h.nDataBlock →
        fromExt = true ∧ h1.curExt.isSome = true ∧ h1.posInExtBlk ≤ 71)) ?_ ?_
  · refine Post.ite (fun h0 => ?_) fun h0 => ?_
    · exact Post.pure ⟨.refl s, .refl h, id, fun _ _ h72 => absurd (h0 ▸ h72) (by decide)⟩
    refine Post.ite (fun h1 => ?_) fun h1 => ?_
    · exact Post.pure ⟨.refl s, .refl h, id, fun _ hffs _ => absurd (h1.symm.trans hffs) (by decide)⟩
    refine Post.ite (fun h2 => ?_) fun h2 => ?_
    · exact Post.pure ⟨.refl s, .refl h, id, fun _ _ h72 => absurd h2 (Nat.not_lt.mpr h72)⟩
    have hffs : isOFSvol (c.vol h.vol) = false := eq_false_of_ne_true h1
    apply Post.bind
    -- the extension block for this index is in the handle, unless reading it failed
    have load : ∀ n, Post (NoOobIf (ExtOK c h)) c (do
          let (rc, e) ← readFileExtBlock h.vol n
          if rc ≠ rcOK then return (rc, h)
          return (rcOK, { h with curExt := some e, posInExtBlk := 0 }) : Prog (RC × FileH)) s
        (fun (rc, h1) s1 => Reads s s1 ∧ CursorOf h h1 ∧ (rc ≠ rcOK → h1 = h) ∧
          (rc = rcOK → ExtOK c h → h1.curExt.isSome = true ∧ h1.posInExtBlk ≤ 71)) := by
      intro n
      apply Post.bind; apply Post.readFileExtBlock
      intro rc e s1 r
      refine Post.ite (fun hrc => ?_) fun _ => ?_
      · exact Post.pure ⟨r.reads, .refl h, fun _ => rfl, fun hk => absurd hk hrc⟩
      · exact Post.pure ⟨r.reads, ⟨_, _, rfl⟩, fun hne => absurd rfl hne, fun _ _ => ⟨rfl, Nat.zero_le _⟩⟩
    apply Post.mono
    · refine Post.ite (fun _ => load _) fun h3 => ?_
      have hgt : 72 < h.nDataBlock := Nat.lt_of_le_of_ne (Nat.not_lt.mp h2) (Ne.symm h3)
      refine Post.ite (fun h4 => ?_) fun h4 => ?_
      · cases hce : h.curExt with
        | none => exact Post.fault fun hx => Bool.noConfusion (hce ▸ (hx hffs hgt).1)
        | some ce => exact load _
      · exact Post.pure ⟨.refl s, .refl h, fun _ => rfl, fun _ hx =>
          ⟨(hx hffs hgt).1, Nat.le_of_lt_succ (Nat.lt_of_le_of_ne (hx hffs hgt).2 h4)⟩⟩
    · rintro ⟨rc, h'⟩ s1 ⟨hr, hcur, hfail, hok⟩
      refine Post.ite (fun hrc => ?_) fun hrc => ?_
      · exact Post.pure ⟨hr, hcur, fun hx => by rw [hfail hrc]; exact hx, fun hk => absurd hk hrc⟩
      have hk : rc = rcOK := Classical.not_not.mp hrc
      cases hce : h'.curExt with
      | none => exact Post.fault fun hx => Bool.noConfusion (hce ▸ (hok hk hx).1)
      | some ce =>
        refine Post.ite (fun h5 => ?_) fun h5 => ?_
        · apply Post.bind
          exact Post.fault fun hx => absurd (hok hk hx).2 (Nat.not_le.mpr h5)
        · have hs : h'.curExt.isSome = true := hce ▸ rfl
          exact Post.pure ⟨hr, hcur, fun _ => .of_some hs (Nat.le_succ_of_le (Nat.not_lt.mp h5)),
            fun _ _ _ => ⟨rfl, hs, Nat.not_lt.mp h5⟩⟩
  · rintro ⟨rc, h1, nSect, fromExt⟩ s1 ⟨hr, ⟨e, p, rfl⟩, hx1, hloc⟩
    have stay : ∀ (rc' : RC) s', Reads s s' → rc' ≠ rcOK →
        NextBlock c h s (rc', { h with curExt := e, posInExtBlk := p }) s' := fun _ _ hr' hne =>
      ⟨hr', ⟨rfl, rfl, rfl, rfl, rfl, rfl⟩, fun _ => ⟨rfl, rfl, rfl, rfl⟩, fun hk => absurd hk hne, hx1⟩
    refine Post.ite (fun hrc => Post.pure (stay _ _ hr hrc)) fun hrc => ?_
    refine Post.ite (fun _ => Post.pure (stay _ _ hr rcError_ne_ok)) fun hs => ?_
    apply Post.bind; apply Post.readDataBlock
    intro rc2 data s2 r2 hdata
    refine Post.ite (fun hrc2 => Post.pure (stay _ _ (hr.trans r2) hrc2)) fun hrc2 => ?_
    have hd := hdata (Classical.not_not.mp hrc2)
    rw [hr.sector] at hd
    cases fromExt <;>
      refine Post.pure ⟨hr.trans r2, ⟨rfl, rfl, rfl, rfl, rfl, rfl⟩, fun hne => absurd rfl hne,
        fun _ => ⟨rfl, rfl, hd, eq_false_of_ne_true hs⟩, fun _ hffs hgt => ?_⟩ <;>
      obtain ⟨hf, hsome, hp⟩ := hloc (Classical.not_not.mp hrc) hffs (Nat.le_of_lt_succ hgt)
    · cases hf
    · exact ⟨hsome, Nat.succ_le_succ hp⟩

end Adf
