import AdfProofs.BitmapOrder
import AdfProofs.Allocator
import AdfProps.C15
import AdfProofs.WriteReadLemmas
/-!
# Entry creation: `adfCreateEntry`, `adfCreateFile`, `adfCreateDir` (C02, C05, C08, C18)

`adfCreateEntry` goes through four phases: it finds the place of the link (the directory's hash slot, or the last
entry of the slot's chain — reads only); it takes a block (memory only); it writes the link — ONE block write, of the
directory block itself (at the sector its self pointer names; the root block for the root directory) or of the chain's
last entry, a block read from the disk and rewritten where it says it lives with its `nextSameHash` word replaced and
nothing else changed —; and it gives the block back when that write failed.  `CreateEntryRun` says how a call went:
which block got which struct (`CreateLink`) and how the write of it ended (`LinkStep`).  It is proved of the program
once; the write set (C18), the step of the free map (C05), the refusal on a full volume (C08) and, on a healthy device,
the new content of the disk (C02, in `CreateFound.lean`) are read off it by cases.  `CreateAtRun` is the same for a
call that is given the sector (the link step of undelete: no allocation).

`adfCreateFile` and `adfCreateDir` (volumes without directory cache) then write the new header to the block they were
given — a block the bitmap had free when the call began; `CreateLinkRun` describes the call up to here — and update the
bitmap in its fixed order.  Nothing else: no header, extension or data block of any other file is written, whichever
access fails.
-/
namespace Adf

/-- after a case split on a flag (the volume's directory cache), what is said of the other case holds vacuously -/
theorem Bool.absurd {b : Bool} {P : Prop} (ht : b = true) (hf : b = false) : P := nomatch ht.symm.trans hf

/-- the sector a directory block is written back to -/
def dirKey (vc : VolCfg) (d : Blk) : Nat := if d.secType = ST_ROOT then vc.rootBlock else d.w F_headerKey

/-- the one block `adfCreateEntry` rewrites to link the new entry `b` in -/
def IsCreateLinkWr (c : Cfg) (disk : Std.HashMap Nat Bytes) (v : Nat) (dir : Blk) (b : Nat) (e : Ev) : Prop :=
  (∃ data st, e = Ev.wr (some v) (vsect c v (dirKey (c.vol v) dir)) 512 data st) ∨
  (∃ m fix st, EntryFix fix ∧
     e = Ev.wr (some v) (vsect c v ((blkOfBytes ((disk.getD (vsect c v m) zeroBlock).take 512)).w F_headerKey)) 512
       (bytesOfBlk (withSum (fix ((blkOfBytes ((disk.getD (vsect c v m) zeroBlock).take 512)).setW F_nextSameHash b)) F_checkSum)) st)

theorem dirKey_stamped (vc : VolCfg) (dir : Blk) (hv b : Nat) (t : DateTime) (h : hv < 72) :
    dirKey vc (stampDates (dir.setHash hv b) t) = dirKey vc dir := by
  unfold dirKey Blk.secType
  rw [stampDates_w (by decide) (by decide) (by decide), stampDates_w (by decide) (by decide) (by decide),
    setHash_w_ne h (Or.inr (by decide)), setHash_w_ne h (Or.inl (by decide))]

theorem createEntryWalk_tail (c : Cfg) (v : Nat) (intl : Bool) (name : Bytes) (fuel n : Nat) (s : St) :
    Post AnyFault c (createEntryWalk v intl name fuel n) s (fun r _ =>
      ∀ upd, r = some upd → ∃ m, upd = blkOfBytes ((s.disk.getD (vsect c v m) zeroBlock).take 512)) := by
  induction fuel generalizing n s with
  | zero => unfold createEntryWalk; exact Post.pure nofun
  | succ fuel ih =>
    unfold createEntryWalk
    apply Post.bind; apply Post.readEntryBlock
    intro rc upd s1 r _
    refine Post.ite (fun _ => Post.pure nofun) (fun hrc => ?_)
    refine Post.ite (fun _ => Post.pure nofun) (fun _ => ?_)
    refine Post.ite (fun _ => Post.pure ?_) (fun _ => ?_)
    · rintro _ ⟨rfl⟩
      exact ⟨n, r.ok (Classical.not_not.mp hrc)⟩
    · exact (ih _ s1).mono fun _ _ h upd hu => r.reads.disk ▸ h upd hu

/-- **the end of `adfCreateEntry`**: the link write — block `n` gets the struct `e`, the writer adds the checksum — and,
    when it failed, the release of the new entry's block `b`; the call returns `b` exactly when the write succeeded -/
inductive LinkStep (c : Cfg) (v b n : Nat) (e : Blk) (s : St) : Option Nat → St → Prop
  | linked {s' : St} (w : WriteStep c v n (bytesOfBlk (withSum e F_checkSum)) s rcOK s') : LinkStep c v b n e s (some b) s'
  | gaveBack {rc : RC} {s1 : St} {m : Mem} (w : WriteStep c v n (bytesOfBlk (withSum e F_checkSum)) s rc s1)
      (failed : rc ≠ rcOK) (back : Marked v b true s1.mem m) : LinkStep c v b n e s none { s1 with mem := m }

section
variable {c : Cfg} {v b n : Nat} {e : Blk} {s s' : St} {r : Option Nat}

theorem linkStep_run {d1 d2 : Blk} {rc rc' : RC} {s1 : St} (w : WriteStep c v n (bytesOfBlk (withSum e F_checkSum)) s rc s1)
    (hrc : rc' = rcOK ↔ rc = rcOK) :
    Post AnyFault c (if rc' ≠ rcOK then do setBlockFree v b; pure (none, d1) else pure (some b, d2) : Prog (Option Nat × Blk)) s1
      (fun r s' => LinkStep c v b n e s r.1 s') := by
  refine Post.ite (fun hne => ?_) (fun hok => ?_)
  · apply Post.bind; apply Post.setBlockFree
    intro m k
    exact Post.pure (.gaveBack w (fun h => hne (hrc.mpr h)) k)
  · obtain rfl := hrc.mp (Classical.not_not.mp hok)
    exact Post.pure (.linked w)

theorem LinkStep.clock (h : LinkStep c v b n e s r s') : s'.clock = s.clock := by
  cases h with
  | linked w => exact w.kept.clock
  | gaveBack w => exact w.kept.clock

theorem LinkStep.mem (h : LinkStep c v b n e s r s') :
    (r = some b ∧ s'.mem = s.mem) ∨ (r = none ∧ Marked v b true s.mem s'.mem) := by
  cases h with
  | linked w => exact .inl ⟨rfl, w.kept.mem⟩
  | gaveBack w _ back => exact .inr ⟨rfl, w.kept.mem ▸ back⟩

theorem LinkStep.wrote {P : Ev → Prop} (h : LinkStep c v b n e s r s')
    (hP : ∀ st, P (Ev.wr (some v) (vsect c v n) 512 (bytesOfBlk (withSum e F_checkSum)) st)) :
    ∃ W, Wrote s s' W ∧ ((r = none ∧ (W = [] ∨ ∃ ev, W = [ev] ∧ P ev ∧ ev.status ≠ 0)) ∨
      (r = some b ∧ ∃ ev, W = [ev] ∧ P ev ∧ ev.status = 0)) := by
  cases h with
  | linked w => exact ⟨_, w.wrote_ok rfl, .inr ⟨rfl, _, rfl, hP 0, rfl⟩⟩
  | gaveBack w hne =>
    rcases w.wrote with ⟨hw, _⟩ | ⟨st, hw, hst⟩
    · exact ⟨_, hw, .inl ⟨rfl, .inl rfl⟩⟩
    · exact ⟨_, hw, .inl ⟨rfl, .inr ⟨_, rfl, hP st, fun h0 => hne (hst.mpr h0)⟩⟩⟩

theorem LinkStep.healthy {P : Blk → Prop} (h : LinkStep c v b n e s r s') (hf : s.faultAt = none) (hr : Readable c v n)
    (hrw : (c.vol v).readOnly = false) (hwf : BlkWF e) (hty : e.w F_type = T_HEADER) (hP : P (withSum e F_checkSum)) :
    r = some b ∧ Rewrote c v n P s.disk s' := by
  cases h with
  | linked w => exact ⟨rfl, (w.rewrote hf hr hrw hwf hty hP).2⟩
  | gaveBack w hne => exact absurd (w.healthy hf hr hrw) hne

end

/-- the part of `createEntry` / `createEntryAt` after the allocation of `b`, for an empty hash slot -/
theorem linkIntoDir_run (c : Cfg) (v : Nat) (dir : Blk) (hv b : Nat) (s : St) (hh : hv < 72) :
    Post AnyFault c (do
        let t ← now
        let dir := stampDates (dir.setHash hv b) t
        let (rc, dir) ← if dir.secType = ST_ROOT then writeRootBlock v (c.vol v).rootBlock dir
                        else writeDirBlock v (dir.w F_headerKey) dir
        if rc ≠ rcOK then
          setBlockFree v b
          return (none, dir)
        return (some b, dir)) s
      (fun r s' => ∃ fix, DirFix fix ∧
        LinkStep c v b (dirKey (c.vol v) dir) (fix (stampDates (dir.setHash hv b) s.clock)) s r.1 s') := by
  apply Post.bind; apply Post.now
  have hkey := dirKey_stamped (c.vol v) dir hv b s.clock hh
  refine Post.ite (fun hroot => ?_) (fun hroot => ?_)
  · apply Post.bind; apply Post.writeRootBlock
    intro rc s2 w
    rw [show (c.vol v).rootBlock = dirKey (c.vol v) dir by rw [← hkey]; exact (if_pos hroot).symm] at w
    exact (linkStep_run w Iff.rfl).mono fun _ _ h => ⟨_, .root, h⟩
  · apply Post.bind; apply Post.writeDirBlock
    intro rc s2 w
    rw [show (stampDates (dir.setHash hv b) s.clock).w F_headerKey = dirKey (c.vol v) dir by
      rw [← hkey]; exact (if_neg hroot).symm] at w
    exact (linkStep_run w (dirRc_ok rc)).mono fun _ _ h => ⟨_, .dir, h⟩

/-- the same for a slot with a chain: `upd` is the chain's last entry, its link already set -/
theorem linkIntoTail_run (c : Cfg) (v b : Nat) (upd dir : Blk) (s : St) :
    Post AnyFault c (do
        let rc ← if upd.secType = ST_DIR then do let (rc, _) ← writeDirBlock v (upd.w F_headerKey) upd; pure rc
                 else if upd.secType = ST_FILE then do let (rc, _) ← writeFileHdrBlock v (upd.w F_headerKey) upd; pure rc
                 else writeEntryBlock v (upd.w F_headerKey) upd
        if rc ≠ rcOK then
          setBlockFree v b
          return (none, dir)
        return (some b, dir)) s
      (fun r s' => ∃ fix, EntryFix fix ∧ LinkStep c v b (upd.w F_headerKey) (fix upd) s r.1 s') :=
  writeEntryByType fun fix _ _ _ hfix hrc w => (linkStep_run w hrc).mono fun _ _ h => ⟨fix, hfix, h⟩

/-- **which block `adfCreateEntry` rewrites to link the new entry's block `b` in, and with what**: the state `s1` in
    which the search for the place ends, the block number and the struct handed to the device -/
inductive CreateLink (c : Cfg) (v : Nat) (dir : Blk) (name : Bytes) (b : Nat) (s : St) : St → Nat → Blk → Prop
  /-- the name's slot is empty: the directory block itself, where its self pointer says (the root block for the root),
      slot set and dates stamped, through the root or the directory writer -/
  | slot {fix : Blk → Blk} (empty : dir.hash (hashName (useIntl (c.vol v).dosType) name) = 0) (hfix : DirFix fix) :
      CreateLink c v dir name b s s (dirKey (c.vol v) dir)
        (fix (stampDates (dir.setHash (hashName (useIntl (c.vol v).dosType) name) b) s.clock))
  /-- else the last entry `upd` of the slot's chain as the walk returned it, where its self pointer says, with its link
      set and nothing else changed but what the writer of its type normalises -/
  | tail {fix : Blk → Blk} {upd : Blk} {s1 : St} (chain : dir.hash (hashName (useIntl (c.vol v).dosType) name) ≠ 0)
      (walk : run c (createEntryWalk v (useIntl (c.vol v).dosType) name ((c.vol v).lastBlock - (c.vol v).firstBlock + 1)
        (dir.hash (hashName (useIntl (c.vol v).dosType) name))) s = (.ok (some upd), s1)) (hfix : EntryFix fix) :
      CreateLink c v dir name b s s1 (upd.w F_headerKey) (fix (upd.setW F_nextSameHash b))

/-- **how a call of `adfCreateEntry` went**, for every directory block, name, chain content, volume state and fault
    schedule; the result is the new entry's block (or none) and the directory struct the call hands back, of which
    `took` says nothing -/
inductive CreateEntryRun (c : Cfg) (v : Nat) (dir : Blk) (name : Bytes) (s : St) : Option Nat × Blk → St → Prop
  /-- it gave up before taking a block (the chain cannot be read to its end, the name exists, no block is free): only
      reads happened -/
  | refused {s' : St} (reads : Reads s s') : CreateEntryRun c v dir name s (none, dir) s'
  /-- it found the place of the link, took `b`, the block the allocator's scan found, and went through the link step -/
  | took {b n : Nat} {e d : Blk} {m : Mem} {s1 s' : St} {r : Option Nat} (link : CreateLink c v dir name b s s1 n e)
      (scan : freeScan c v s.mem 1 = [b]) (marked : Marked v b false s.mem m)
      (step : LinkStep c v b n e { s1 with mem := m } r s') : CreateEntryRun c v dir name s (r, d) s'

theorem createEntry_run (c : Cfg) (v : Nat) (dir : Blk) (name : Bytes) (s : St) :
    Post AnyFault c (createEntry v dir name) s (CreateEntryRun c v dir name s) := by
  unfold createEntry
  apply Post.bind; apply Post.getVolCfg
  refine Post.ite (fun hslot => ?_) (fun hslot => ?_)
  · apply Post.bind; apply Post.get1FreeBlock
    · exact fun _ => Post.pure (.refused (.refl s))
    intro b m hb k
    refine (linkIntoDir_run c v dir _ b { s with mem := m } (C15.C15_hash_lt _ name)).mono ?_
    exact fun _ _ ⟨_, hfix, step⟩ => .took (.slot hslot hfix) hb k step
  · apply Post.bind
    refine ((Post.runEq fun _ => trivial).and (Post.reads (createEntryWalk_reads v _ name _ _))).mono ?_
    rintro (_ | upd) s1 ⟨hwalk, r1⟩
    · exact Post.pure (.refused r1)
    apply Post.bind; apply Post.get1FreeBlock
    · exact fun _ => Post.pure (.refused r1)
    intro b m hb k
    refine (linkIntoTail_run c v b (upd.setW F_nextSameHash b) dir { s1 with mem := m }).mono ?_
    rintro _ _ ⟨_, hfix, step⟩
    rw [Blk.w_setW_ne (by decide)] at step
    exact .took (.tail hslot hwalk hfix) (r1.mem ▸ hb) (r1.mem ▸ k) step

/-- **how a call of `adfCreateEntry` with a given sector `t` went** (the link step of undelete): the same search for the
    place and the same link step, no allocation -/
inductive CreateAtRun (c : Cfg) (v : Nat) (dir : Blk) (name : Bytes) (t : Nat) (s : St) : Option Nat × Blk → St → Prop
  /-- the slot's chain cannot be read to its end, or holds the name: only reads happened -/
  | refused {s' : St} (chain : dir.hash (hashName (useIntl (c.vol v).dosType) name) ≠ 0) (reads : Reads s s') :
      CreateAtRun c v dir name t s (none, dir) s'
  | linked {n : Nat} {e d : Blk} {s1 s' : St} {r : Option Nat} (link : CreateLink c v dir name t s s1 n e)
      (step : LinkStep c v t n e s1 r s') : CreateAtRun c v dir name t s (r, d) s'

theorem createEntryAt_run (c : Cfg) (v : Nat) (dir : Blk) (name : Bytes) (t : Nat) (s : St) :
    Post AnyFault c (createEntryAt v dir name t) s (CreateAtRun c v dir name t s) := by
  unfold createEntryAt
  apply Post.bind; apply Post.getVolCfg
  refine Post.ite (fun hslot => ?_) (fun hslot => ?_)
  · refine (linkIntoDir_run c v dir _ t s (C15.C15_hash_lt _ name)).mono ?_
    exact fun _ _ ⟨_, hfix, step⟩ => .linked (.slot hslot hfix) step
  · apply Post.bind
    refine ((Post.runEq fun _ => trivial).and (Post.reads (createEntryWalk_reads v _ name _ _))).mono ?_
    rintro (_ | upd) s1 ⟨hwalk, r1⟩
    · exact Post.pure (.refused hslot r1)
    refine (linkIntoTail_run c v t (upd.setW F_nextSameHash t) dir s1).mono ?_
    rintro _ _ ⟨_, hfix, step⟩
    rw [Blk.w_setW_ne (by decide)] at step
    exact .linked (.tail hslot hwalk hfix) step

/-- the device writes of `adfCreateEntry` (newest first) and what they say about its result -/
def CreateEntryW (c : Cfg) (disk : Std.HashMap Nat Bytes) (v : Nat) (dir : Blk) (tbl : List Blk) : Option Nat → List Ev → Prop
  | none, W => W = [] ∨ ∃ b e, W = [e] ∧ IsCreateLinkWr c disk v dir b e ∧ e.status ≠ 0
  | some b, W => bmIsFree tbl b = true ∧ 2 ≤ b ∧ ∃ e, W = [e] ∧ IsCreateLinkWr c disk v dir b e ∧ e.status = 0

/-- the device writes of `adfCreateEntry` with a given sector `t` (newest first) and what they say about its result -/
def CreateAtW (c : Cfg) (disk : Std.HashMap Nat Bytes) (v : Nat) (dir : Blk) (t : Nat) : Option Nat → List Ev → Prop
  | none, W => W = [] ∨ ∃ e, W = [e] ∧ IsCreateLinkWr c disk v dir t e ∧ e.status ≠ 0
  | some b, W => b = t ∧ ∃ e, W = [e] ∧ IsCreateLinkWr c disk v dir t e ∧ e.status = 0

section
variable {c : Cfg} {v : Nat} {dir : Blk} {name : Bytes} {b n : Nat} {e : Blk} {s s1 s' : St} {r : Option Nat × Blk}

theorem CreateLink.reads (h : CreateLink c v dir name b s s1 n e) : Reads s s1 := by
  cases h with
  | slot => exact .refl s
  | tail _ walk => exact (Post.reads (F := AnyFault) (createEntryWalk_reads v _ name _ _)).holds walk

theorem CreateLink.isLinkWr (h : CreateLink c v dir name b s s1 n e) (st : Nat) :
    IsCreateLinkWr c s.disk v dir b (Ev.wr (some v) (vsect c v n) 512 (bytesOfBlk (withSum e F_checkSum)) st) := by
  cases h with
  | slot => exact .inl ⟨_, st, rfl⟩
  | tail _ walk hfix =>
    obtain ⟨m, rfl⟩ := (createEntryWalk_tail c v _ name _ _ s).holds walk _ rfl
    exact .inr ⟨m, _, st, hfix, rfl⟩

theorem CreateEntryRun.writeSet (h : CreateEntryRun c v dir name s r s') :
    ∃ W, writesOf s'.trace = W ++ writesOf s.trace ∧ CreateEntryW c s.disk v dir (s.mem.vol v).bitmapTable r.1 W ∧
      s'.clock = s.clock := by
  cases h with
  | refused h => exact ⟨[], h.wrote, .inl rfl, h.clock⟩
  | @took _ _ _ _ m s1 _ _ link hb k step =>
    have q : NoWrite s { s1 with mem := m } := link.reads.toNoWrite.setMem m
    obtain ⟨W, hW, hr⟩ := step.wrote link.isLinkWr
    refine ⟨W, q.then_wrote hW, ?_, step.clock.trans q.clock⟩
    rcases hr with ⟨rfl, h0⟩ | ⟨rfl, h1⟩
    · exact h0.imp_right fun ⟨ev, h⟩ => ⟨_, ev, h⟩
    · exact ⟨freeScan_free (hb ▸ List.mem_singleton_self _), k.ge, h1⟩

theorem CreateEntryRun.freeMapStep (hwf : TableWF (s.mem.vol v).bitmapTable) (h : CreateEntryRun c v dir name s r s') :
    FreeMapStep v s.mem s'.mem r.1 := by
  cases h with
  | refused h => exact fun _ _ => by rw [h.mem]
  | took _ hb k step =>
    have hp : Part v (s.mem.vol v).bitmapTable [_] [] _ :=
      (Part.init v s.mem hwf).mark (freeScan_free (hb ▸ List.mem_singleton_self _)) k
    rcases step.mem with ⟨rfl, hm⟩ | ⟨rfl, k2⟩
    · rw [hm]; exact hp.step
    · exact (hp.unmark List.mem_cons_self k2).done fun _ h => List.mem_singleton.mp h ▸ List.mem_cons_self

theorem CreateEntryRun.full (hfull : VolFull c v s.mem) (h : CreateEntryRun c v dir name s r s') :
    r = (none, dir) ∧ Reads s s' := by
  cases h with
  | refused h => exact ⟨rfl, h⟩
  | took _ hb => exact absurd (congrArg List.length hb) hfull

variable {t : Nat}

theorem CreateAtRun.writeSet (h : CreateAtRun c v dir name t s r s') : ∃ W, Wrote s s' W ∧ CreateAtW c s.disk v dir t r.1 W := by
  cases h with
  | refused _ reads => exact ⟨[], reads.wrote, .inl rfl⟩
  | linked link step =>
    obtain ⟨W, hW, hr⟩ := step.wrote link.isLinkWr
    refine ⟨W, link.reads.toNoWrite.then_wrote hW, ?_⟩
    rcases hr with ⟨rfl, h0⟩ | ⟨rfl, h1⟩
    · exact h0
    · exact ⟨rfl, h1⟩

theorem CreateAtRun.mem (h : CreateAtRun c v dir name t s r s') :
    s'.mem = s.mem ∨ r.1 = none ∧ Marked v t true s.mem s'.mem := by
  cases h with
  | refused _ reads => exact .inl reads.mem
  | linked link step =>
    exact step.mem.imp (fun h => h.2.trans link.reads.mem) fun h => ⟨h.1, link.reads.mem ▸ h.2⟩

end

/-- **how the first half of `adfCreateFile` / `adfCreateDir` went** (`createFileLink`, `createDirLink`; `fix` is the
    normaliser of the writer of the new block): the status it reports, whether the call goes on, and the final state.
    `refused` and `noEntry` say that the status is not OK; `entry` leaves it open (its users need `cont` alone) -/
inductive CreateLinkRun (c : Cfg) (v nParent : Nat) (name : Bytes) (fix : Blk → Blk) (s : St) : RC → Bool → St → Prop
  /-- the parent cannot be read, or (directory cache) the volume lacks the blocks the call may need: only reads -/
  | refused {rc : RC} {s' : St} (failed : rc ≠ rcOK) (reads : Reads s s') : CreateLinkRun c v nParent name fix s rc false s'
  /-- `adfCreateEntry` on the parent block as it is on the disk links nothing -/
  | noEntry {d : Blk} {s1 s' : St} (reads : Reads s s1)
      (entry : CreateEntryRun c v (blkOfBytes ((s.sector (vsect c v nParent)).take 512)) name s1 (none, d) s') :
      CreateLinkRun c v nParent name fix s rcError false s'
  /-- it links block `b`; then the new entry's struct `e` is written to `b`, and the call goes on exactly if that
      succeeded -/
  | entry {b : Nat} {d e : Blk} {rc rc' : RC} {cont : Bool} {s1 s2 s' : St} (reads : Reads s s1)
      (entry : CreateEntryRun c v (blkOfBytes ((s.sector (vsect c v nParent)).take 512)) name s1 (some b, d) s2)
      (fresh : FreshEntry name e) (w : WriteStep c v b (bytesOfBlk (withSum (fix e) F_checkSum)) s2 rc s')
      (hcont : cont = true ↔ rc = rcOK) : CreateLinkRun c v nParent name fix s rc' cont s'
  /-- with a directory cache, on a volume that is not full, nothing is said -/
  | dircache {rc : RC} {cont : Bool} {s' : St} (dc : isDIRCACHE (c.vol v).dosType = true) (room : ¬ VolFull c v s.mem) :
      CreateLinkRun c v nParent name fix s rc cont s'

theorem createFileLink_run (c : Cfg) (v nParent : Nat) (name : Bytes) (s : St) :
    Post AnyFault c (createFileLink v nParent name) s
      (fun r s' => CreateLinkRun c v nParent name fileHdrFixed s r.1 r.2.2.isSome s') := by
  unfold createFileLink
  apply Post.bind; apply Post.getVolCfg
  apply Post.bind; apply Post.readEntryBlock
  intro rc parent s1 r1 _
  refine Post.ite (fun hrc => Post.pure (.refused hrc r1.reads)) (fun hrc => ?_)
  obtain rfl := r1.ok (Classical.not_not.mp hrc)
  apply Post.bind
  refine (Post.reads (hasFreeBlocks_reads v 2)).mono ?_
  intro room s2 r2
  have r12 := r1.reads.trans r2
  refine Post.ite (fun _ => Post.pure (.refused (by decide) r12)) (fun _ => ?_)
  apply Post.bind
  refine (createEntry_run c v _ name s2).mono ?_
  rintro ⟨ns, parent'⟩ s3 h
  cases ns with
  | none => exact Post.pure (.noEntry r12 h)
  | some b =>
    have h0 := (FreshEntry.base name).setW F_headerKey b (.inl (by decide)) (by decide)
    apply Post.bind; apply Post.now
    apply Post.bind; apply Post.writeFileHdrBlock
    intro rc3 s4 w
    -- `FreshEntry` of the header as the call builds it: `h0` through the `setW F_parent` the parent's type selects (none
    -- for a parent that is neither root nor directory), then through the date stamp
    have hrun := fun rc' cont => CreateLinkRun.entry (rc' := rc') (cont := cont) r12 h (.stamp (iteInduction
      (fun _ => h0.setW F_parent _ (.inr (by decide)) (by decide))
      fun _ => iteInduction (fun _ => h0.setW F_parent _ (.inr (by decide)) (by decide)) fun _ => h0)) w
    refine Post.ite (fun hne => ?_) (fun hok => ?_)
    · exact Post.pure (hrun _ _ ⟨nofun, fun hk => absurd hk hne⟩)
    · exact Post.pure (hrun _ _ ⟨fun _ => Classical.not_not.mp hok, fun _ => rfl⟩)

theorem createDirLink_run (c : Cfg) (v nParent : Nat) (name : Bytes) (s : St) :
    Post AnyFault c (createDirLink v nParent name) s (fun r s' => CreateLinkRun c v nParent name dirFixed s r.1 r.2 s') := by
  unfold createDirLink
  apply Post.bind; apply Post.getVolCfg
  apply Post.bind; apply Post.readEntryBlock
  intro rc parent s1 r1 _
  refine Post.ite (fun hrc => Post.pure (.refused hrc r1.reads)) (fun hrc => ?_)
  obtain rfl := r1.ok (Classical.not_not.mp hrc)
  apply Post.bind
  refine (Post.reads (hasFreeBlocks_reads v 3)).mono ?_
  intro room s2 r2
  have r12 := r1.reads.trans r2
  refine Post.ite (fun _ => Post.pure (.refused (by decide) r12)) (fun _ => ?_)
  apply Post.bind
  refine (createEntry_run c v _ name s2).mono ?_
  rintro ⟨ns, parent'⟩ s3 h
  cases ns with
  | none => exact Post.pure (.noEntry r12 h)
  | some b =>
    have hfresh := ((FreshEntry.base name).setW F_headerKey b (.inl (by decide)) (by decide)).setW F_parent
      (parentKeyOf (c.vol v) parent') (.inr (by decide)) (by decide)
    apply Post.bind; apply Post.now
    refine Post.ite (fun hdc => ?_) (fun _ => ?_)
    · have hnf : ¬ VolFull c v s.mem := fun hfull => nomatch (h.full (r12.mem ▸ hfull)).1
      exact Post.any.mono fun _ _ _ => .dircache hdc hnf
    apply Post.bind; apply Post.pure
    apply Post.bind; apply Post.writeDirBlock
    intro rc3 s4 w
    refine Post.ite (fun hne => ?_) (fun hok => ?_)
    · exact Post.pure (.entry r12 h hfresh.stamp w ⟨nofun, fun hk => absurd ((dirRc_ok rc3).mpr hk) hne⟩)
    · exact Post.pure (.entry r12 h hfresh.stamp w ⟨fun _ => (dirRc_ok rc3).mp (Classical.not_not.mp hok), fun _ => rfl⟩)

/-- the write of the new entry's own block: to a block the bitmap had free when the call began -/
def IsNewBlockWr (c : Cfg) (v : Nat) (tbl : List Blk) (b : Nat) (e : Ev) : Prop :=
  bmIsFree tbl b = true ∧ 2 ≤ b ∧ ∃ data st, e = Ev.wr (some v) (vsect c v b) 512 data st

/-- the device writes of `adfCreateFile` / `adfCreateDir` on a volume without directory cache (newest first): nothing; a
    failed link write alone; or the link write, then the new block, then (if that write succeeded) a bitmap update -/
def CreateWrites (c : Cfg) (disk : Std.HashMap Nat Bytes) (v : Nat) (parent : Blk) (tbl : List Blk) (W : List Ev) : Prop :=
  W = [] ∨ ∃ b link rest, W = rest ++ [link] ∧ IsCreateLinkWr c disk v parent b link ∧ (link.status ≠ 0 → rest = []) ∧
    (rest = [] ∨ ∃ nw bm, rest = bm ++ [nw] ∧ IsNewBlockWr c v tbl b nw ∧ (nw.status ≠ 0 → bm = []) ∧ BmOrder c v bm)

/-- the device writes of the first half of `adfCreateFile` / `adfCreateDir`, newest first: when the call goes on to the
    bitmap update (`true`) the link write and the new block, both done -/
def CreateLinkW (c : Cfg) (disk : Std.HashMap Nat Bytes) (v : Nat) (parent : Blk) (tbl : List Blk) : Bool → List Ev → Prop
  | false, W => CreateWrites c disk v parent tbl W
  | true, W => ∃ b link nw, W = [nw, link] ∧ IsCreateLinkWr c disk v parent b link ∧ link.status = 0 ∧
      IsNewBlockWr c v tbl b nw ∧ nw.status = 0

/-- **the write set and the refusal of `adfCreateFile` / `adfCreateDir` (or their first halves)**: they failed with only
    reads done; or the volume had a free block, and then — without directory cache — their device writes satisfy `P` -/
def CreateRun (c : Cfg) (v : Nat) (s s' : St) (failed : Prop) (P : List Ev → Prop) : Prop :=
  (failed ∧ Reads s s') ∨ (¬ VolFull c v s.mem ∧ (isDIRCACHE (c.vol v).dosType = false → ∃ W, Wrote s s' W ∧ P W))

section
variable {c : Cfg} {v : Nat} {s s' : St} {failed failed' : Prop} {P : List Ev → Prop}

theorem CreateRun.mono (h : CreateRun c v s s' failed P) (hf : failed → failed') : CreateRun c v s s' failed' P :=
  h.imp_left (.imp_left hf)

theorem CreateRun.full (hfull : VolFull c v s.mem) (h : CreateRun c v s s' failed P) : failed ∧ Untouched s s' :=
  h.elim (fun h => ⟨h.1, h.2.untouched⟩) fun h => absurd hfull h.1

theorem CreateRun.writeSet (hnc : isDIRCACHE (c.vol v).dosType = false) (h0 : P []) (h : CreateRun c v s s' failed P) :
    ∃ W, writesOf s'.trace = W ++ writesOf s.trace ∧ P W :=
  h.elim (fun h => ⟨[], h.2.wrote, h0⟩) fun h => h.2 hnc

/-- with a directory cache, on a volume that is not full, `CreateRun` claims nothing -/
theorem CreateRun.dircache (hnf : ¬ VolFull c v s.mem) (hdc : isDIRCACHE (c.vol v).dosType = true) :
    CreateRun c v s s' failed P :=
  .inr ⟨hnf, Bool.absurd hdc⟩

end

section
variable {c : Cfg} {v nParent : Nat} {name : Bytes} {fix : Blk → Blk} {s s' : St} {rc : RC} {cont : Bool}

theorem CreateLinkRun.writeSet (h : CreateLinkRun c v nParent name fix s rc cont s') :
    CreateRun c v s s' (rc ≠ rcOK ∧ cont = false)
      (CreateLinkW c s.disk v (blkOfBytes ((s.sector (vsect c v nParent)).take 512)) (s.mem.vol v).bitmapTable cont) := by
  cases h with
  | refused hrc reads => exact .inl ⟨⟨hrc, rfl⟩, reads⟩
  | dircache hdc hnf => exact .dircache hnf hdc
  | noEntry r1 h =>
    -- `adfCreateEntry` returned none: on a full volume it only read; else it wrote nothing or the failed link write
    by_cases hfull : VolFull c v s.mem
    · exact .inl ⟨⟨by decide, rfl⟩, r1.trans (h.full (r1.mem ▸ hfull)).2⟩
    · obtain ⟨W, hW, hCE, _⟩ := h.writeSet
      refine .inr ⟨hfull, fun _ => ⟨W, r1.toNoWrite.then_wrote hW, hCE.imp_right ?_⟩⟩
      rintro ⟨b, e, hWe, hl, _⟩
      exact ⟨b, e, [], hWe, r1.disk ▸ hl, fun _ => rfl, .inl rfl⟩
  | @entry b _ _ _ _ _ _ _ _ r1 h _ w hcont =>
    refine .inr ⟨(fun hfull => nomatch (h.full (r1.mem ▸ hfull)).1), fun _ => ?_⟩
    obtain ⟨_, hW, ⟨hfree, h2, e, rfl, hl, hst⟩, _⟩ := h.writeSet
    rw [r1.disk] at hl
    rw [r1.mem] at hfree
    have hnew : ∀ data st, IsNewBlockWr c v (s.mem.vol v).bitmapTable b (.wr (some v) (vsect c v b) 512 data st) :=
      fun data st => ⟨hfree, h2, data, st, rfl⟩
    have hW := r1.toNoWrite.then_wrote hW
    -- the link write `e` is done; the write of the new block did not reach the device, or it did with status `st`
    rcases w.wrote with ⟨hw, hne⟩ | ⟨st, hw, hst3⟩
    · obtain rfl : cont = false := Bool.eq_false_iff.mpr fun h => hne (hcont.mp h)
      exact ⟨_, hW.trans hw, .inr ⟨b, e, [], rfl, hl, fun _ => rfl, .inl rfl⟩⟩
    · refine ⟨_, hW.trans hw, ?_⟩
      -- the call goes on: both writes succeeded (`CreateLinkW … true`); it does not: `CreateWrites` with `bm = []`
      cases cont with
      | true => exact ⟨b, e, _, rfl, hl, hst, hnew _ st, hst3.mp (hcont.mp rfl)⟩
      | false => exact .inr ⟨b, e, [_], rfl, hl, fun h => absurd hst h, .inr ⟨_, [], rfl, hnew _ st, fun _ => rfl, .inl rfl⟩⟩

end

theorem updateBitmap_afterLink {c : Cfg} {v : Nat} {parent : Blk} {s s1 : St} {failed : RC → Prop} (hnf : ¬ VolFull c v s.mem)
    (hL : isDIRCACHE (c.vol v).dosType = false →
      ∃ W, Wrote s s1 W ∧ CreateLinkW c s.disk v parent (s.mem.vol v).bitmapTable true W) :
    Post AnyFault c (updateBitmap v) s1 (fun rc s' => CreateRun c v s s' (failed rc)
      (CreateWrites c s.disk v parent (s.mem.vol v).bitmapTable)) := by
  refine (updateBitmap_order c v s1).mono ?_
  rintro _ s2 ⟨bm, hbm, hord⟩
  refine .inr ⟨hnf, fun hnc => ?_⟩
  obtain ⟨_, hW, b, link, nw, rfl, hl, hst, hn, hnst⟩ := hL hnc
  exact ⟨_, hW.trans hbm, .inr ⟨b, link, bm ++ [nw], (List.append_assoc bm [nw] [link]).symm, hl, fun h => absurd hst h,
    .inr ⟨nw, bm, rfl, hn, fun h => absurd hnst h, hord⟩⟩⟩

/-- **`adfCreateFile`**: the link write, then the new header on a block that was free, then a bitmap update in its fixed
    order — at every interruption point no block of another file is touched -/
theorem createFile_run (c : Cfg) (v nParent : Nat) (name : Bytes) (s : St) :
    Post AnyFault c (createFile v nParent name) s (fun r s' => CreateRun c v s s' (r.1 ≠ rcOK)
      (CreateWrites c s.disk v (blkOfBytes ((s.sector (vsect c v nParent)).take 512)) (s.mem.vol v).bitmapTable)) := by
  unfold createFile
  apply Post.bind; apply Post.getVolCfg
  apply Post.bind
  refine (createFileLink_run c v nParent name s).mono ?_
  rintro ⟨rc, fhdr, cont⟩ s1 h
  have h := h.writeSet
  cases cont with
  | none => exact Post.pure (h.mono And.left)
  | some parent =>
    obtain ⟨hnf, hL⟩ := h.resolve_left fun h => nomatch h.1.2
    refine Post.ite (fun hdc => Post.any.mono fun _ _ _ => .dircache hnf hdc) (fun _ => ?_)
    apply Post.bind
    exact (updateBitmap_afterLink (failed := (· ≠ rcOK)) hnf hL).mono fun _ _ h => Post.pure h

theorem createDir_run (c : Cfg) (v nParent : Nat) (name : Bytes) (s : St) :
    Post AnyFault c (createDir v nParent name) s (fun rc s' => CreateRun c v s s' (rc ≠ rcOK)
      (CreateWrites c s.disk v (blkOfBytes ((s.sector (vsect c v nParent)).take 512)) (s.mem.vol v).bitmapTable)) := by
  unfold createDir
  apply Post.bind
  refine (createDirLink_run c v nParent name s).mono ?_
  rintro ⟨rc, cont⟩ s1 h
  have h := h.writeSet
  cases cont with
  | false => exact Post.ite (fun _ => Post.pure (h.mono And.left)) (fun h => absurd rfl h)
  | true =>
    obtain ⟨hnf, hL⟩ := h.resolve_left fun h => nomatch h.1.2
    exact Post.ite (fun h => nomatch h) fun _ => updateBitmap_afterLink hnf hL

end Adf
