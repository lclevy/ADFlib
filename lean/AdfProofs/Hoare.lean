/-
  A weakest-precondition layer over `run`.  Library-level proofs follow the control flow of the model with `Post.bind`
  and a rule for each primitive the library's functions use (the raw device accesses `devRead`/`devWrite`, which only the
  mount and format code issues, have none); for the two volume accesses the rule hands over EVERYTHING the access does
  (`ReadStep`, `WriteStep`), and the caller takes the fields it needs.

  What a program leaves alone is not proved by following it: `Post.reads` and `Post.noWrite` read it off
  the primitives the program uses (`Prog.Uses`; `simp` with the `uses_*` lemmas below reads it off a definition).
-/
import AdfProofs.ProgLemmas
namespace Adf

def Fault.isOob : Fault → Bool
  | .oob _ => true
  | _ => false

/-- `Post F c p s Q`: running `p` from `s` returns a value and state satisfying `Q`, or stops with a model fault in `F` -/
def Post {α : Type} (F : Fault → Prop) (c : Cfg) (p : Prog α) (s : St) (Q : α → St → Prop) : Prop :=
  match run c p s with
  | (.ok a, s') => Q a s'
  | (.fault f, _) => F f

/-- tolerated faults for the memory-safety statements: anything but an out-of-bounds access -/
def NoOob : Fault → Prop := fun f => f.isOob = false
/-- partial correctness: any model fault (fuel, unsupported, …) is tolerated -/
def AnyFault : Fault → Prop := fun _ => True

/-- tolerated faults of a call that is memory-safe provided `P` holds on entry -/
def NoOobIf (P : Prop) : Fault → Prop := fun f => P → NoOob f

section
variable {F : Fault → Prop} {c : Cfg} {s : St} {α : Type}

theorem Post.pure {a : α} {Q : α → St → Prop} (h : Q a s) : Post F c (Pure.pure a : Prog α) s Q := h

theorem Post.bind {F : Fault → Prop} {α β : Type} (c : Cfg) (p : Prog β) (k : β → Prog α) (s : St) (Q : α → St → Prop)
    (h : Post F c p s (fun b s' => Post F c (k b) s' Q)) : Post F c (p >>= k) s Q := by
  unfold Post at h ⊢
  rw [run_bind']
  generalize run c p s = x at h ⊢
  rcases x with ⟨b | f, s'⟩ <;> exact h

theorem Post.mono {p : Prog α} {Q Q' : α → St → Prop} (h : Post F c p s Q) (hq : ∀ a s', Q a s' → Q' a s') :
    Post F c p s Q' := by
  unfold Post at h ⊢
  generalize run c p s = x at h ⊢
  rcases x with ⟨b | f, s'⟩
  · exact hq _ _ h
  · exact h

theorem Post.and {p : Prog α} {Q1 Q2 : α → St → Prop} (h1 : Post F c p s Q1) (h2 : Post F c p s Q2) :
    Post F c p s (fun a s' => Q1 a s' ∧ Q2 a s') := by
  unfold Post at *
  generalize run c p s = x at h1 h2 ⊢
  rcases x with ⟨b | f, s'⟩
  · exact ⟨h1, h2⟩
  · exact h1

theorem Post.ite {cond : Prop} [Decidable cond] {p q : Prog α} {Q : α → St → Prop}
    (hp : cond → Post F c p s Q) (hq : ¬cond → Post F c q s Q) : Post F c (if cond then p else q) s Q := by
  split
  · exact hp ‹_›
  · exact hq ‹_›

theorem Post.fault {f : Fault} {Q : α → St → Prop} (h : F f) : Post F c (Adf.fault f : Prog α) s Q := h

theorem Post.runEq {p : Prog α} (hF : ∀ f, F f) : Post F c p s (fun a s' => run c p s = (.ok a, s')) := by
  unfold Post
  generalize run c p s = x
  rcases x with ⟨b | f, s'⟩
  · rfl
  · exact hF f

theorem Post.holds {p : Prog α} {Q : α → St → Prop} {a : α} {s' : St} (h : Post F c p s Q)
    (hr : run c p s = (.ok a, s')) : Q a s' := by
  unfold Post at h
  rw [hr] at h
  exact h

theorem Post.returns {p : Prog α} {Q : α → St → Prop} (h : Post (fun _ => False) c p s Q) :
    ∃ a s', run c p s = (.ok a, s') ∧ Q a s' := by
  unfold Post at h
  generalize run c p s = x at h
  rcases x with ⟨a | f, s'⟩
  · exact ⟨a, s', rfl, h⟩
  · exact h.elim

theorem Post.getMem {F : Fault → Prop} (c : Cfg) (s : St) (Q : Mem → St → Prop) (h : Q s.mem s) :
    Post F c Adf.getMem s Q := h

theorem Post.getVolMem {v : Nat} {Q : VolMem → St → Prop} (h : Q (s.mem.vol v) s) : Post F c (Adf.getVolMem v) s Q := h

theorem Post.getVolCfg {v : Nat} {Q : VolCfg → St → Prop} (h : Q (c.vol v) s) : Post F c (Adf.getVolCfg v) s Q := h

theorem Post.setVolMem {v : Nat} {x : VolMem} {Q : Unit → St → Prop} (h : Q () { s with mem := s.mem.setVol v x }) :
    Post F c (Adf.setVolMem v x) s Q := h

theorem Post.modVolMem {v : Nat} {f : VolMem → VolMem} {Q : Unit → St → Prop}
    (h : Q () { s with mem := s.mem.setVol v (f (s.mem.vol v)) }) : Post F c (Adf.modVolMem v f) s Q := h

theorem Post.now {Q : DateTime → St → Prop} (h : Q s.clock s) : Post F c Adf.now s Q := h

end

theorem Post.weaken {F F' : Fault → Prop} {c : Cfg} {s : St} {α : Type} {p : Prog α} {Q : α → St → Prop}
    (h : Post F c p s Q) (hF : ∀ f, F f → F' f) : Post F' c p s Q := by
  unfold Post at h ⊢
  generalize run c p s = x at h ⊢
  rcases x with ⟨b | f, s'⟩
  · exact h
  · exact hF f h

section
variable {P : Prop} {c : Cfg} {s : St} {α : Type} {p : Prog α} {Q : α → St → Prop}

theorem Post.anyFault {F : Fault → Prop} (h : Post F c p s Q) : Post AnyFault c p s Q := h.weaken fun _ _ => trivial
theorem Post.noOob (h : Post (NoOobIf P) c p s Q) (hp : P) : Post NoOob c p s Q := h.weaken fun _ hf => hf hp
theorem Post.noOobIf (h : Post NoOob c p s Q) : Post (NoOobIf P) c p s Q := h.weaken fun _ hf _ => hf

end

@[simp] theorem Mem.vol_setVol (m : Mem) (v : Nat) (x : VolMem) : (m.setVol v x).vol v = x := by
  unfold Mem.setVol Mem.vol
  rw [List.getD_eq_getElem?_getD, List.getElem?_set_self]
  · rfl
  · simp; omega

/-- no device write happened between `s` and `s'`: the disk and the log of writes are what they were; so are the clock
    and the position of the scheduled fault, which no primitive changes -/
structure NoWrite (s s' : St) : Prop where
  disk : s'.disk = s.disk
  writes : writesOf s'.trace = writesOf s.trace
  clock : s'.clock = s.clock
  faultAt : s'.faultAt = s.faultAt

/-- the library's memory was not assigned between `s` and `s'` (device writes may have happened); clock and fault schedule,
    which no primitive changes, are kept as well -/
structure MemKept (s s' : St) : Prop where
  mem : s'.mem = s.mem
  clock : s'.clock = s.clock
  faultAt : s'.faultAt = s.faultAt

/-- only reads happened: as `NoWrite`, and the library's memory is what it was -/
structure Reads (s s' : St) : Prop extends NoWrite s s' where
  mem : s'.mem = s.mem

theorem NoWrite.refl (s : St) : NoWrite s s := ⟨rfl, rfl, rfl, rfl⟩
theorem Reads.refl (s : St) : Reads s s := ⟨.refl s, rfl⟩

theorem MemKept.refl (s : St) : MemKept s s := ⟨rfl, rfl, rfl⟩
theorem NoWrite.trans {s1 s2 s3 : St} (h : NoWrite s1 s2) (h' : NoWrite s2 s3) : NoWrite s1 s3 :=
  ⟨h'.disk.trans h.disk, h'.writes.trans h.writes, h'.clock.trans h.clock, h'.faultAt.trans h.faultAt⟩
theorem Reads.trans {s1 s2 s3 : St} (h : Reads s1 s2) (h' : Reads s2 s3) : Reads s1 s3 :=
  ⟨h.toNoWrite.trans h'.toNoWrite, h'.mem.trans h.mem⟩

/-- what a refused call leaves behind: nothing -/
def Untouched (s s' : St) : Prop := s'.disk = s.disk ∧ s'.mem = s.mem ∧ writesOf s'.trace = writesOf s.trace

theorem Reads.untouched {s s' : St} (r : Reads s s') : Untouched s s' := ⟨r.disk, r.mem, r.writes⟩

theorem NoWrite.sector {s s' : St} (h : NoWrite s s') (n : Nat) : s'.sector n = s.sector n := by
  unfold St.sector; rw [h.disk]

theorem NoWrite.setMem {s s' : St} (h : NoWrite s s') (m : Mem) : NoWrite s { s' with mem := m } :=
  ⟨h.disk, h.writes, h.clock, h.faultAt⟩

/-- `W` are the device writes between `s` and `s'`, newest first -/
def Wrote (s s' : St) (W : List Ev) : Prop := writesOf s'.trace = W ++ writesOf s.trace

theorem Wrote.refl (s : St) : Wrote s s [] := rfl
theorem NoWrite.wrote {s s' : St} (h : NoWrite s s') : Wrote s s' [] := h.writes
theorem Wrote.trans {s1 s2 s3 : St} {W1 W2 : List Ev} (h : Wrote s1 s2 W1) (h' : Wrote s2 s3 W2) :
    Wrote s1 s3 (W2 ++ W1) := by
  unfold Wrote at *; rw [h', h, List.append_assoc]
theorem Wrote.noWrite {s1 s2 s3 : St} {W : List Ev} (h : Wrote s1 s2 W) (h' : NoWrite s2 s3) : Wrote s1 s3 W :=
  h.trans h'.wrote

theorem NoWrite.then_wrote {s1 s2 s3 : St} {W : List Ev} (h : NoWrite s1 s2) (h' : Wrote s2 s3 W) : Wrote s1 s3 W := by
  unfold Wrote at *; rw [h', h.writes]

def Prim.noWrite {β : Type} (pr : Prim β) : Prop := pr.writes = false

def Prim.noSetMem {β : Type} (pr : Prim β) : Prop := pr.setsMem = false

def Prim.reads {β : Type} (pr : Prim β) : Prop := pr.noWrite ∧ pr.noSetMem

theorem Prog.Uses.noWrite {F F' : Fault → Prop} {α : Type} {p : Prog α} (h : p.Uses Prim.reads F) (hF : ∀ f, F f → F' f) :
    p.Uses Prim.noWrite F' := h.mono (fun _ h => h.1) hF

theorem PrimStep.noWrite {c : Cfg} {s s' : St} {m : Bool} (h : PrimStep c s false m s') : NoWrite s s' := by
  cases h with
  | skip => exact .refl s
  | mem x _ => exact ⟨rfl, rfl, rfl, rfl⟩
  | access e _ hw =>
    cases e with
    | rd vol n size st => exact ⟨rfl, rfl, rfl, rfl⟩
    | wr vol n size b st => exact absurd (hw rfl) (by decide)

theorem PrimStep.memKept {c : Cfg} {s s' : St} {w : Bool} (h : PrimStep c s w false s') : MemKept s s' := by
  cases h with
  | skip => exact .refl s
  | mem x hm => exact absurd hm (by decide)
  | access e _ _ => exact ⟨rfl, rfl, rfl⟩

theorem runPrim_noWrite (c : Cfg) {β : Type} (pr : Prim β) (s : St) (h : pr.noWrite) : NoWrite s (runPrim c pr s).2 := by
  obtain ⟨_, _, hr, hs⟩ := runPrim_step c pr s
  rw [hr]; exact (h ▸ hs).noWrite

theorem runPrim_memKept (c : Cfg) {β : Type} (pr : Prim β) (s : St) (h : pr.noSetMem) : MemKept s (runPrim c pr s).2 := by
  obtain ⟨_, _, hr, hs⟩ := runPrim_step c pr s
  rw [hr]; exact (h ▸ hs).memKept

section
variable {F : Fault → Prop} {c : Cfg} {s : St} {α : Type} {p : Prog α}

theorem Post.of_uses {A : {β : Type} → Prim β → Prop} {R : St → St → Prop} (hu : p.Uses A F)
    (hrefl : ∀ s, R s s) (htrans : ∀ {s1 s2 s3}, R s1 s2 → R s2 s3 → R s1 s3)
    (hprim : ∀ {β : Type} (pr : Prim β) (s : St), A pr → R s (runPrim c pr s).2) :
    Post F c p s (fun _ s' => R s s') := by
  obtain ⟨h, hf⟩ := hu.run c hrefl htrans hprim s
  unfold Post
  generalize run c p s = x at h hf
  rcases x with ⟨b | f, s'⟩
  · exact h
  · exact hf f rfl

theorem Post.of_run (hF : ∀ f, F f) {Q : St → Prop} (h : Q (run c p s).2) : Post F c p s (fun _ s' => Q s') := by
  unfold Post
  generalize run c p s = x at h
  rcases x with ⟨b | f, s'⟩
  · exact h
  · exact hF f

theorem writes_grow (c : Cfg) (p : Prog α) (s : St) (hF : ∀ f, F f) :
    Post F c p s (fun _ s' => ∃ W, writesOf s'.trace = W ++ writesOf s.trace) :=
  Post.of_run hF <| let ⟨evs, ht, _⟩ := run_logged c p s; ⟨writesOf evs, by rw [ht]; exact List.filter_append ..⟩

theorem Post.any : Post AnyFault c p s (fun _ _ => True) := Post.of_run (Q := fun _ => True) (fun _ => trivial) trivial

theorem Post.assume {A : Prop} {Q : α → St → Prop}
    (h : A → Post AnyFault c p s Q) : Post AnyFault c p s (fun a s' => A → Q a s') := by
  by_cases ha : A
  · exact (h ha).mono fun _ _ q _ => q
  · exact Post.any.mono fun _ _ _ a => absurd a ha

theorem Post.noWrite (hu : p.Uses Prim.noWrite F) : Post F c p s (fun _ s' => NoWrite s s') :=
  Post.of_uses hu NoWrite.refl NoWrite.trans (runPrim_noWrite c)

theorem Post.reads (hu : p.Uses Prim.reads F) : Post F c p s (fun _ s' => Reads s s') :=
  Post.of_uses hu Reads.refl Reads.trans
    (fun pr s h => ⟨runPrim_noWrite c pr s h.1, (runPrim_memKept c pr s h.2).mem⟩)

end

section
variable {A : {β : Type} → Prim β → Prop} {F : Fault → Prop} {α : Type}

@[simp] theorem uses_pure (a : α) : (pure a : Prog α).Uses A F := trivial
@[simp] theorem uses_bind {β : Type} (p : Prog β) (k : β → Prog α) :
    (p >>= k).Uses A F ↔ p.Uses A F ∧ ∀ b, (k b).Uses A F := Iff.rfl
@[simp] theorem uses_ite (cond : Prop) [Decidable cond] (p q : Prog α) :
    (if cond then p else q).Uses A F ↔ (cond → p.Uses A F) ∧ (¬cond → q.Uses A F) := by
  split <;> simp [*]
@[simp] theorem uses_fault (f : Fault) : (fault f : Prog α).Uses A F ↔ F f := Iff.rfl
@[simp] theorem uses_volRead (v n : Nat) : (volRead v n).Uses A F ↔ A (.volRead v n) := Iff.rfl
@[simp] theorem uses_volWrite (v n : Nat) (b : Bytes) : (volWrite v n b).Uses A F ↔ A (.volWrite v n b) := Iff.rfl
@[simp] theorem uses_getCfg : getCfg.Uses A F ↔ A .getCfg := Iff.rfl
@[simp] theorem uses_getMem : getMem.Uses A F ↔ A .getMem := Iff.rfl
@[simp] theorem uses_setMem (m : Mem) : (setMem m).Uses A F ↔ A (.setMem m) := Iff.rfl
@[simp] theorem uses_now : now.Uses A F ↔ A .now := Iff.rfl
@[simp] theorem uses_getVolCfg (v : Nat) : (getVolCfg v).Uses A F ↔ A .getCfg := by simp [getVolCfg]
@[simp] theorem uses_getVolMem (v : Nat) : (getVolMem v).Uses A F ↔ A .getMem := by simp [getVolMem]
@[simp] theorem uses_setVolMem (v : Nat) (x : VolMem) :
    (setVolMem v x).Uses A F ↔ A .getMem ∧ ∀ m : Mem, A (.setMem (m.setVol v x)) := by simp [setVolMem]
@[simp] theorem uses_modVolMem (v : Nat) (f : VolMem → VolMem) :
    (modVolMem v f).Uses A F ↔ A .getMem ∧ ∀ (x : VolMem) (m : Mem), A (.setMem (m.setVol v (f x))) := by
  simp [modVolMem, forall_and]

end

theorem uses_forIn_list {A : {β : Type} → Prim β → Prop} {F : Fault → Prop} {β γ : Type}
    (f : β → γ → Prog (ForInStep γ)) (hf : ∀ a b, (f a b).Uses A F) :
    ∀ (l : List β) (init : γ), (forIn l init f).Uses A F := by
  intro l
  induction l with
  | nil => intro init; trivial
  | cons a as ih =>
    intro init
    rw [List.forIn_cons]
    refine ⟨hf a init, fun r => ?_⟩
    cases r with
    | done b => trivial
    | yield b => exact ih b

/-- block `n` of volume `v` can be addressed: volume mounted, inside the partition, inside the device -/
def Readable (c : Cfg) (v n : Nat) : Prop :=
  (c.vol v).mounted = true ∧ ¬ (vsect c v n < (c.vol v).firstBlock ∨ vsect c v n > (c.vol v).lastBlock) ∧
  ¬ (vsect c v n * 512 + 512 > c.devSize)

/-- the volume's geometry is sane: mounted, its blocks lie inside the device, no 32-bit wrap -/
def GeomOK (c : Cfg) (v : Nat) : Prop :=
  (c.vol v).mounted = true ∧ (c.vol v).firstBlock ≤ (c.vol v).lastBlock ∧ (c.vol v).lastBlock < 4294967296 ∧
  ((c.vol v).lastBlock + 1) * 512 ≤ c.devSize

theorem readable_of_geom (c : Cfg) (v k : Nat) (g : GeomOK c v) (hk : k ≤ (c.vol v).lastBlock - (c.vol v).firstBlock) :
    Readable c v k ∧ vsect c v k = k + (c.vol v).firstBlock := by
  obtain ⟨hm, hfl, h32, hdev⟩ := g
  have hle : k + (c.vol v).firstBlock ≤ (c.vol v).lastBlock := Nat.add_le_of_le_sub hfl hk
  have hv : vsect c v k = k + (c.vol v).firstBlock := Nat.mod_eq_of_lt (Nat.lt_of_le_of_lt hle h32)
  rw [Readable, hv]
  refine ⟨⟨hm, fun h => h.elim (Nat.not_lt_of_le (Nat.le_add_left _ _)) (Nat.not_lt_of_le hle), Nat.not_lt_of_le ?_⟩, rfl⟩
  rw [← Nat.succ_mul]
  exact Nat.le_trans (Nat.mul_le_mul_right 512 (Nat.succ_le_succ hle)) hdev

theorem St.status_eq_zero (s : St) (c : Cfg) (n size : Nat) :
    s.status c n size = 0 ↔ s.tick.1 = false ∧ ¬ n * 512 + size > c.devSize := by
  unfold St.status
  by_cases h1 : s.tick.1 = true
  · simp [h1]
  · by_cases h2 : n * 512 + size > c.devSize <;> simp [h1, h2]

theorem St.tick_healthy (s : St) (h : s.faultAt = none) : s.tick.1 = false := by
  unfold St.tick; simp [h]

/-- at most `m` accesses, then at most `k` more (with `k := m * j` the sum is `m * (j + 1)` by definition) -/
theorem io_add {a a1 a2 m k : Nat} (h1 : a1 ≤ a + m) (h2 : a2 ≤ a1 + k) : a2 ≤ a + (k + m) := by
  rw [Nat.add_comm k, ← Nat.add_assoc]
  exact Nat.le_trans h2 (Nat.add_le_add_right h1 k)

/-- everything `volRead v n` does (`s.tick.1`: the fault schedule fails the access `s` is about to make) -/
structure ReadStep (c : Cfg) (v n : Nat) (s : St) (rc : RC) (buf : Bytes) (s' : St) : Prop where
  reads : Reads s s'
  io : s'.ioCount ≤ s.ioCount + 1
  ok : rc = rcOK → buf = (s.sector (vsect c v n)).take 512 ∧ s.tick.1 = false
  err : rc ≠ rcOK → buf = []
  healthy : s.faultAt = none → Readable c v n → rc = rcOK

theorem Readable.gate {c : Cfg} {v n : Nat} (h : Readable c v n) (wr : Bool) (hw : wr = true → (c.vol v).readOnly = false) :
    c.gate v n wr = rcOK := (c.gate_ok ..).mpr ⟨h.1, hw, h.2.1⟩

theorem run_volRead (c : Cfg) (v n : Nat) (s : St) :
    ∃ rc buf s', run c (volRead v n) s = (.ok (rc, buf), s') ∧ ReadStep c v n s rc buf s' := by
  show ∃ rc buf s', runPrim c (.volRead v n) s = _ ∧ _
  rw [runPrim_volRead, devReadRaw_eq]
  by_cases hg : c.gate v n false = rcOK
  · rw [if_pos hg]
    by_cases h0 : s.status c (vsect c v n) 512 = 0
    · rw [if_pos h0]
      exact ⟨_, _, _, rfl, ⟨⟨rfl, rfl, rfl, rfl⟩, rfl⟩, Nat.le_refl _,
        fun _ => ⟨rfl, ((s.status_eq_zero ..).mp h0).1⟩, fun h => absurd rfl h, fun _ _ => rfl⟩
    · rw [if_neg h0]
      exact ⟨_, _, _, rfl, ⟨⟨rfl, rfl, rfl, rfl⟩, rfl⟩, Nat.le_refl _, fun h => absurd h rcError_ne_ok, fun _ => rfl,
        fun hf hr => absurd ((s.status_eq_zero ..).mpr ⟨s.tick_healthy hf, hr.2.2⟩) h0⟩
  · rw [if_neg hg]
    exact ⟨_, _, _, rfl, .refl s, Nat.le_succ _, fun h => absurd h hg, fun _ => rfl, fun _ hr => absurd (hr.gate false nofun) hg⟩

/-- everything `volWrite v n b` does; `wrote`: a refusal in front of the device logs nothing, an access logs one event,
    whose status is 0 exactly when OK is reported -/
structure WriteStep (c : Cfg) (v n : Nat) (b : Bytes) (s : St) (rc : RC) (s' : St) : Prop where
  kept : MemKept s s'
  fail : rc ≠ rcOK → s'.disk = s.disk
  ok : rc = rcOK → s'.disk = s.disk.insert (vsect c v n) (padTo b 512) ∧ s.tick.1 = false
  wrote : (Wrote s s' [] ∧ rc ≠ rcOK) ∨ ∃ st, Wrote s s' [Ev.wr (some v) (vsect c v n) 512 b st] ∧ (rc = rcOK ↔ st = 0)
  healthy : s.faultAt = none → Readable c v n → (c.vol v).readOnly = false → rc = rcOK

theorem WriteStep.wrote_ok {c : Cfg} {v n : Nat} {b : Bytes} {s s' : St} {rc : RC} (w : WriteStep c v n b s rc s')
    (hk : rc = rcOK) : Wrote s s' [Ev.wr (some v) (vsect c v n) 512 b 0] := by
  rcases w.wrote with ⟨_, hne⟩ | ⟨st, hw, hst⟩
  · exact absurd hk hne
  · exact hst.mp hk ▸ hw

theorem WriteStep.atMostOne {c : Cfg} {v n : Nat} {b : Bytes} {s s' : St} {rc : RC} (w : WriteStep c v n b s rc s') :
    ∃ W, Wrote s s' W ∧ (W = [] ∨ ∃ st, W = [Ev.wr (some v) (vsect c v n) 512 b st]) := by
  rcases w.wrote with ⟨hw, _⟩ | ⟨st, hw, _⟩
  · exact ⟨[], hw, .inl rfl⟩
  · exact ⟨[_], hw, .inr ⟨st, rfl⟩⟩

theorem run_volWrite (c : Cfg) (v n : Nat) (b : Bytes) (s : St) :
    ∃ rc s', run c (volWrite v n b) s = (.ok rc, s') ∧ WriteStep c v n b s rc s' := by
  show ∃ rc s', runPrim c (.volWrite v n b) s = _ ∧ _
  rw [runPrim_volWrite, devWriteRaw_eq]
  by_cases hg : c.gate v n true = rcOK
  · rw [if_pos hg]
    by_cases h0 : s.status c (vsect c v n) 512 = 0
    · rw [if_pos h0, h0]
      exact ⟨_, _, rfl, ⟨rfl, rfl, rfl⟩, fun h => absurd rfl h, fun _ => ⟨rfl, ((s.status_eq_zero ..).mp h0).1⟩,
        .inr ⟨0, rfl, fun _ => rfl, fun _ => rfl⟩, fun _ _ _ => rfl⟩
    · rw [if_neg h0]
      exact ⟨_, _, rfl, ⟨rfl, rfl, rfl⟩, fun _ => Ev.store_failed h0 _, fun h => absurd h rcError_ne_ok,
        .inr ⟨_, rfl, fun h => absurd h rcError_ne_ok, fun h => absurd h h0⟩,
        fun hf hr _ => absurd ((s.status_eq_zero ..).mpr ⟨s.tick_healthy hf, hr.2.2⟩) h0⟩
  · rw [if_neg hg]
    exact ⟨_, _, rfl, .refl s, fun _ => rfl, fun h => absurd h hg, .inl ⟨rfl, hg⟩, fun _ hr hw => absurd (hr.gate true fun _ => hw) hg⟩

theorem Post.read {F : Fault → Prop} {c : Cfg} {v n : Nat} {s : St} {Q : RC × Bytes → St → Prop}
    (h : ∀ rc buf s', ReadStep c v n s rc buf s' → Q (rc, buf) s') : Post F c (Adf.volRead v n) s Q := by
  obtain ⟨rc, buf, s', hr, hs⟩ := run_volRead c v n s
  unfold Post; rw [hr]; exact h rc buf s' hs

theorem Post.write {F : Fault → Prop} {c : Cfg} {v n : Nat} {b : Bytes} {s : St} {Q : RC → St → Prop}
    (h : ∀ rc s', WriteStep c v n b s rc s' → Q rc s') : Post F c (Adf.volWrite v n b) s Q := by
  obtain ⟨rc, s', hr, hs⟩ := run_volWrite c v n b s
  unfold Post; rw [hr]; exact h rc s' hs

/-! ### projections of `run_volRead` / `run_volWrite`: the forms C17 and C19 state, and three rules in weaker forms -/

theorem run_volRead_spec (c : Cfg) (v n : Nat) (s : St) :
    ∃ rc buf s', run c (volRead v n) s = (.ok (rc, buf), s') ∧ s'.mem = s.mem ∧ s'.disk = s.disk ∧
      (rc = rcOK → buf = (s.sector (vsect c v n)).take 512 ∧ s.tick.1 = false) ∧ (rc ≠ rcOK → buf = []) := by
  obtain ⟨rc, buf, s', hr, h⟩ := run_volRead c v n s
  exact ⟨rc, buf, s', hr, h.reads.mem, h.reads.disk, h.ok, h.err⟩

theorem run_volWrite_spec (c : Cfg) (v n : Nat) (b : Bytes) (s : St) :
    ∃ rc s', run c (volWrite v n b) s = (.ok rc, s') ∧ s'.mem = s.mem ∧
      (rc ≠ rcOK → s'.disk = s.disk) ∧
      (rc = rcOK → s'.disk = s.disk.insert (vsect c v n) (padTo b 512) ∧ s.tick.1 = false) := by
  obtain ⟨rc, s', hr, h⟩ := run_volWrite c v n b s
  exact ⟨rc, s', hr, h.kept.mem, h.fail, h.ok⟩

theorem Post.volRead {F : Fault → Prop} (c : Cfg) (v n : Nat) (s : St) (Q : RC × Bytes → St → Prop)
    (h : ∀ r s', s'.mem = s.mem → Q r s') : Post F c (Adf.volRead v n) s Q :=
  Post.read fun _ _ s' hs => h _ s' hs.reads.mem

theorem Post.volWrite {F : Fault → Prop} (c : Cfg) (v n : Nat) (b : Bytes) (s : St) (Q : RC → St → Prop)
    (h : ∀ r s', s'.mem = s.mem → Q r s') : Post F c (Adf.volWrite v n b) s Q :=
  Post.write fun _ s' hs => h _ s' hs.kept.mem

theorem Post.volWriteSpec {F : Fault → Prop} (c : Cfg) (v n : Nat) (b : Bytes) (s : St) (Q : RC → St → Prop)
    (h : ∀ rc s', s'.mem = s.mem → (rc ≠ rcOK → s'.disk = s.disk) →
          (rc = rcOK → s'.disk = s.disk.insert (vsect c v n) (padTo b 512) ∧ s.tick.1 = false) → Q rc s') :
    Post F c (Adf.volWrite v n b) s Q :=
  Post.write fun _ s' hs => h _ s' hs.kept.mem hs.fail hs.ok

/-! From here on `Post` is used through its rules only.  Without this every elaboration against a goal `Post F c p s Q`
    (`apply`, `exact`, `refine`) puts the goal into weak head normal form, i.e. unfolds `Post` into `match run c p s with …`
    and runs the program symbolically until it is stuck — most of what a walk costs.  `unfold Post` still works. -/
attribute [irreducible] Post

end Adf
