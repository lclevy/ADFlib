/-
  `output_name` of unadf, string side: the rewrite loop leaves no `..` in front of a separator or of the end (`hasDD`),
  neutralising leading separators keeps that, and a path with this property that does not start with '/' (`Safe`)
  resolves inside its start directory, as does every prefix of it cut in front of a '/'.
-/
import AdfModel.Unadf
import AdfSpec.PathSpec
namespace Adf
open Spec

/-- the string is empty or starts with a separator -/
def sepHead : Bytes → Bool
  | [] => true
  | c :: _ => c = SLASH || c = BSLASH

/-- the string starts with `..` followed by a separator or by the end: the place the rewrite loop of `output_name` looks for -/
def ddAt : Bytes → Bool
  | a :: b :: s => a = DOT && b = DOT && sepHead s
  | _ => false

/-- "the string contains `..` followed by a separator or by the end" -/
def hasDD : Bytes → Bool
  | [] => false
  | a :: l => ddAt (a :: l) || hasDD l

theorem hasDD_cons_ne {a : UInt8} {l : Bytes} (h : a ≠ DOT) : hasDD (a :: l) = hasDD l := by
  have : ddAt (a :: l) = false := by
    cases l with
    | nil => rfl
    | cons b s => rw [ddAt, decide_eq_false h]; rfl
  rw [hasDD, this, Bool.false_or]

theorem sanitizeDots_cons (a : UInt8) (t : Bytes) :
    sanitizeDots (a :: t) = if ddAt (a :: t) then LX :: LX :: sanitizeDots (t.drop 1) else a :: sanitizeDots t := by
  match t with
  | [] => simp [sanitizeDots, ddAt]
  | [b] => simp [sanitizeDots, ddAt, sepHead]
  | b :: c :: r => rw [sanitizeDots]; simp [ddAt, sepHead, and_assoc]

theorem sanitizeDots_ne_nil (l : Bytes) (h : l ≠ []) : sanitizeDots l ≠ [] := by
  match l, h with
  | a :: t, _ => rw [sanitizeDots_cons]; split <;> exact List.cons_ne_nil _ _

/-! The loop only ever writes `x`, which is neither a dot nor a separator: what `sepHead` finds at the head of the rewritten
string, and `ddAt` with one more byte in front of it, was there in the original. -/

theorem sepHead_sanitizeDots (t : Bytes) (h : sepHead (sanitizeDots t) = true) : sepHead t = true := by
  match t with
  | [] => rfl
  | c :: r =>
    rw [sanitizeDots_cons] at h
    split at h
    · cases h
    · exact h

theorem ddAt_cons_sanitizeDots (a : UInt8) (t : Bytes) (h : ddAt (a :: sanitizeDots t) = true) : ddAt (a :: t) = true := by
  match t with
  | [] => rw [sanitizeDots] at h; exact h
  | b :: r =>
    rw [sanitizeDots_cons] at h
    split at h
    · rw [ddAt, show decide (LX = DOT) = false from rfl] at h; simp at h
    · rw [ddAt, Bool.and_eq_true] at h ⊢
      exact ⟨h.1, sepHead_sanitizeDots r h.2⟩

theorem hasDD_sanitizeDots (l : Bytes) : hasDD (sanitizeDots l) = false := by
  -- carried along for the tail as well, which is where the loop resumes after a rewrite
  suffices h : hasDD (sanitizeDots l) = false ∧ hasDD (sanitizeDots (l.drop 1)) = false from h.1
  induction l with
  | nil => rw [List.drop_nil, sanitizeDots]; exact ⟨rfl, rfl⟩
  | cons a t ih =>
    refine ⟨?_, ih.1⟩
    rw [sanitizeDots_cons]
    split
    · rw [hasDD_cons_ne (by decide), hasDD_cons_ne (by decide)]; exact ih.2
    · rw [hasDD, ih.1, Bool.or_false]
      exact Bool.eq_false_iff.2 (fun h => ‹¬ _› (ddAt_cons_sanitizeDots a t h))

theorem sepHead_append (q s : Bytes) (h : sepHead q = true) (hs : sepHead s = true) : sepHead (q ++ s) = true := by
  cases q with
  | nil => exact hs
  | cons c q => exact h

theorem ddAt_append (p s : Bytes) (h : ddAt p = true) (hs : sepHead s = true) : ddAt (p ++ s) = true := by
  match p, h with
  | a :: b :: q, h =>
    rw [ddAt, Bool.and_eq_true] at h
    rw [List.cons_append, List.cons_append, ddAt, Bool.and_eq_true]
    exact ⟨h.1, sepHead_append q s h.2 hs⟩

theorem hasDD_append {p s : Bytes} (h : hasDD p = true) (hs : sepHead s = true) : hasDD (p ++ s) = true := by
  induction p with
  | nil => cases h
  | cons a t ih =>
    rw [hasDD, Bool.or_eq_true] at h
    rw [List.cons_append, hasDD, Bool.or_eq_true]
    exact h.imp (fun h => ddAt_append (a :: t) s h hs) ih

theorem splitSlash_ne_nil (l : Bytes) : splitSlash l ≠ [] := by
  cases l with
  | nil => exact List.cons_ne_nil _ _
  | cons c rest =>
    rw [splitSlash]; split
    · exact List.cons_ne_nil _ _
    · split <;> exact List.cons_ne_nil _ _

theorem splitSlash_head (l h : Bytes) (t : List Bytes) (e : splitSlash l = h :: t) :
    ∃ s, l = h ++ s ∧ sepHead s = true := by
  induction l generalizing h t with
  | nil => exact ⟨[], by cases e; rfl, rfl⟩
  | cons c rest ih =>
    rw [splitSlash] at e
    split at e
    · rename_i hc
      exact ⟨c :: rest, by cases e; rfl, by rw [hc]; rfl⟩
    · obtain ⟨h', t', hsp⟩ := List.exists_cons_of_ne_nil (splitSlash_ne_nil rest)
      rw [hsp] at e
      obtain ⟨s, hs, hsep⟩ := ih h' t' hsp
      exact ⟨s, by cases e; rw [hs]; rfl, hsep⟩

theorem hasDD_of_dotdot_component (l : Bytes) (h : [DOT, DOT] ∈ splitSlash l) : hasDD l = true := by
  induction l with
  | nil => cases h with | tail _ h => cases h
  | cons c rest ih =>
    rw [hasDD, Bool.or_eq_true]
    rw [splitSlash] at h
    split at h
    · rcases List.mem_cons.1 h with h | h
      · cases h
      · exact .inr (ih h)
    · obtain ⟨h', t', hsp⟩ := List.exists_cons_of_ne_nil (splitSlash_ne_nil rest)
      rw [hsp] at h ih
      rcases List.mem_cons.1 h with h | h
      · -- the first component is "..": c = '.', and "." is the first component of the rest
        obtain ⟨rfl, rfl⟩ : DOT = c ∧ [DOT] = h' := List.cons.inj h
        obtain ⟨s, rfl, hs⟩ := splitSlash_head rest [DOT] t' hsp
        exact .inl (show ddAt (DOT :: DOT :: s) = true by rw [ddAt, hs]; rfl)
      · exact .inr (ih (List.mem_cons_of_mem _ h))

theorem hasDD_neutralizeLead {l : Bytes} (h : hasDD l = false) : hasDD (neutralizeLead l) = false := by
  induction l with
  | nil => exact h
  | cons c rest ih =>
    rw [neutralizeLead]; split
    · rename_i hc
      rw [hasDD_cons_ne (by rcases hc with rfl | rfl <;> decide)] at h
      rw [hasDD_cons_ne (by decide)]
      exact ih h
    · exact h

theorem neutralizeLead_head (l : Bytes) : (neutralizeLead l).head? ≠ some SLASH := by
  cases l with
  | nil => exact nofun
  | cons c rest =>
    rw [neutralizeLead]; split
    · exact fun h => absurd (Option.some.inj h) (by decide)
    · rename_i hc
      exact fun h => hc (.inl (Option.some.inj h))

/-- what `output_name` establishes for the part of a path that comes from the image: it is relative and has no `..` in
    front of a separator or of the end -/
def Safe (l : Bytes) : Prop := l.head? ≠ some SLASH ∧ hasDD l = false

theorem Safe.inside {l : Bytes} (h : Safe l) : inside l :=
  ⟨h.1, resolve_no_dotdot _ _ fun hm => Bool.eq_false_iff.1 h.2 (hasDD_of_dotdot_component l hm)⟩

theorem Safe.take {l : Bytes} (h : Safe l) (j : Nat) (hj : j < l.length) (hs : l.getD j 0 = SLASH) : Safe (l.take j) := by
  refine ⟨?_, Bool.eq_false_iff.2 fun hd => Bool.eq_false_iff.1 h.2 ?_⟩
  · rw [List.head?_take]
    split
    · exact nofun
    · exact h.1
  · rw [← List.take_append_drop j l]
    refine hasDD_append hd ?_
    rw [List.drop_eq_getElem_cons hj, (List.getElem_eq_getD 0).trans hs]
    rfl

theorem outBody_safe (path name : Bytes) : Safe (outBody path name) :=
  ⟨neutralizeLead_head _, hasDD_neutralizeLead (hasDD_sanitizeDots _)⟩

end Adf
