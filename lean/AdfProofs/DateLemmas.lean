/-
  Calendar lemmas for C16.  Both loops of `adfDays2Date` peel terms off a running sum
  (`sumYears`, `sumMonths`) and keep "sum so far + days left" invariant; a day number has only one
  such decomposition because the sums are monotone (`span_unique`).
-/
import AdfModel.Util
import AdfSpec.Calendar
namespace Adf
open Spec

theorem mono_of_le_succ {S : Nat → Nat} (hS : ∀ k, S k ≤ S (k+1)) {a b : Nat} (h : a ≤ b) :
    S a ≤ S b := by
  induction h with
  | refl => exact Nat.le_refl _
  | step _ ih => exact Nat.le_trans ih (hS _)

theorem span_unique {S : Nat → Nat} (hS : ∀ k, S k ≤ S (k+1)) {a b r r' : Nat}
    (h : S a + r = S b + r') (hr : S a + r < S (a+1)) (hr' : S b + r' < S (b+1)) :
    a = b ∧ r = r' := by
  rcases Nat.lt_trichotomy a b with hlt | rfl | hlt
  · have := mono_of_le_succ hS (a := a+1) hlt; omega
  · exact ⟨rfl, Nat.add_left_cancel h⟩
  · have := mono_of_le_succ hS (a := b+1) hlt; omega

theorem sumYears_le_succ (k : Nat) : sumYears k ≤ sumYears (k+1) := Nat.le_add_right _ _

theorem sumMonths_le_succ {f : Bool} (k : Nat) : sumMonths f k ≤ sumMonths f (k+1) :=
  Nat.le_add_right _ _

theorem d2dYear_spec (k n : Nat) :
    ∃ k' r, d2dYear (1978+k) n = (1978+k', r) ∧ sumYears k + n = sumYears k' + r ∧
      r < yearLen (1978+k') := by
  induction n using Nat.strongRecOn generalizing k with
  | _ n ih =>
    rw [d2dYear]
    split
    next h =>
      have step : sumYears (k+1) + (n - yearLen (1978+k)) = sumYears k + n := by
        rw [sumYears, Nat.add_assoc, Nat.add_sub_cancel' h]
      have := yearLen_pos (1978+k)
      obtain ⟨k', r, he, hn, hr⟩ := ih (n - yearLen (1978+k)) (by omega) (k+1)
      exact ⟨k', r, he, step ▸ hn, hr⟩
    next h => exact ⟨k, n, rfl, rfl, Nat.lt_of_not_ge h⟩

/-- `j` is the index `m - 1` into the C array `jm` -/
theorem d2dMonth_spec (f : Bool) (fuel j days : Nat) (hf : j + fuel = 12)
    (hd : sumMonths f j + days < sumMonths f 12) :
    ∃ j' e, d2dMonth f fuel (j+1) days = some (j'+1, e) ∧ j' < 12 ∧
      sumMonths f j + days = sumMonths f j' + e ∧ e < jm f (j'+1) := by
  induction fuel generalizing j days with
  | zero => subst hf; omega
  | succ fuel ih =>
    rw [d2dMonth]
    split
    next h =>
      have step : sumMonths f (j+1) + (days - jm f (j+1)) = sumMonths f j + days := by
        rw [sumMonths, Nat.add_assoc, Nat.add_sub_cancel' h]
      obtain ⟨j', e, he, hj, hs, hlt⟩ := ih (j+1) _ (by omega) (step ▸ hd)
      exact ⟨j', e, he, hj, step ▸ hs, hlt⟩
    next h => exact ⟨j, days, rfl, by omega, rfl, Nat.lt_of_not_ge h⟩

theorem sumMonths_12 (y : Nat) : sumMonths (isLeap y) 12 = yearLen y := by
  unfold yearLen; cases isLeap y <;> rfl

/-- The day number computed by `adfTime2AmigaTime`.  It patches `jm[1]` only from March on; before
    that the month sum stops short of February, so the patch may be taken as made throughout. -/
theorem time2Amiga_days (k m d h mi s : Nat) :
    (time2Amiga (1978+k) m d h mi s).1
      = sumYears k + sumMonths (isLeap (1978+k)) (m-1) + (d-1) := by
  have hmon : (if m > 1 then sumMonths (decide (m - 1 > 1) && isLeap (1978+k)) (m-1) else 0)
      = sumMonths (isLeap (1978+k)) (m-1) := by
    match m with
    | 0 | 1 | 2 => rfl
    | m+3 => simp
  simp only [time2Amiga, Nat.add_sub_cancel_left, hmon]; omega

theorem isLeap_eq_leap (y : Nat) : isLeap y = leap y := by
  simp only [isLeap, leap, ← Nat.dvd_iff_mod_eq_zero, ne_eq]
  by_cases h100 : 100 ∣ y
  · simp [h100, Nat.dvd_trans (by decide : 4 ∣ 100) h100]
  · have h400 : ¬ 400 ∣ y := fun h => h100 (Nat.dvd_trans (by decide) h)
    simp [h100, h400]

theorem jm_monthLen (y m : Nat) : jm (isLeap y) m = monthLen y m := by
  rw [isLeap_eq_leap]; rfl  -- the two tables are the same `match`

theorem validDate_lt_succ {y m d : Nat} (hv : validDate y m d) :
    sumMonths (isLeap y) (m-1) + (d-1) < sumMonths (isLeap y) (m-1+1) := by
  obtain ⟨hm1, -, hd1, hdl⟩ := hv
  rw [sumMonths, Nat.sub_add_cancel hm1, jm_monthLen]; omega

theorem validDate_lt_yearLen {y m d : Nat} (hv : validDate y m d) :
    sumMonths (isLeap y) (m-1) + (d-1) < yearLen y :=
  sumMonths_12 y ▸ Nat.lt_of_lt_of_le (validDate_lt_succ hv)
    (mono_of_le_succ sumMonths_le_succ (by have := hv.2.1; omega))

theorem time2Amiga_inj {y m d h mi s y' m' d' h' mi' s' : Nat} (hy : 1978 ≤ y) (hy' : 1978 ≤ y')
    (hv : validDate y m d) (hv' : validDate y' m' d')
    (he : (time2Amiga y m d h mi s).1 = (time2Amiga y' m' d' h' mi' s').1) :
    y = y' ∧ m = m' ∧ d = d' := by
  obtain ⟨k, rfl⟩ := Nat.exists_eq_add_of_le hy
  obtain ⟨k', rfl⟩ := Nat.exists_eq_add_of_le hy'
  rw [time2Amiga_days, time2Amiga_days, Nat.add_assoc, Nat.add_assoc] at he
  obtain ⟨rfl, he⟩ := span_unique sumYears_le_succ he
    (Nat.add_lt_add_left (validDate_lt_yearLen hv) _) (Nat.add_lt_add_left (validDate_lt_yearLen hv') _)
  obtain ⟨hm, hd⟩ := span_unique sumMonths_le_succ he (validDate_lt_succ hv) (validDate_lt_succ hv')
  exact ⟨rfl, Nat.sub_one_cancel hv.1 hv'.1 hm, Nat.sub_one_cancel hv.2.2.1 hv'.2.2.1 hd⟩

theorem days2Date_spec (n h mi s : Nat) :
    ∃ y m d, days2Date n = some (y, m, d) ∧ 1978 ≤ y ∧ validDate y m d ∧
      (time2Amiga y m d h mi s).1 = n := by
  obtain ⟨k, r, hy, hn, hr⟩ := d2dYear_spec 0 n
  obtain ⟨j, e, hm, hj, hs, he⟩ := d2dMonth_spec (isLeap (1978+k)) 12 0 r rfl
    (by rw [sumMonths_12, sumMonths, Nat.zero_add]; exact hr)
  refine ⟨1978+k, j+1, e+1, ?_, Nat.le_add_right _ _,
    ⟨Nat.le_add_left _ _, hj, Nat.le_add_left _ _, jm_monthLen _ _ ▸ he⟩, ?_⟩
  · simp only [days2Date, hy, hm]
  · rw [time2Amiga_days]
    simp only [sumYears, sumMonths, Nat.add_sub_cancel] at hn hs ⊢
    omega

/-- `adfDays2Date` and the day number of `adfTime2AmigaTime` are inverse bijections between the
    day counts and the valid dates from 1978 on. -/
theorem days2Date_eq_some_iff {n y m d : Nat} (h mi s : Nat) :
    days2Date n = some (y, m, d) ↔
      1978 ≤ y ∧ validDate y m d ∧ (time2Amiga y m d h mi s).1 = n := by
  obtain ⟨y', m', d', he, hy', hv', hn'⟩ := days2Date_spec n h mi s
  constructor
  · intro hd
    cases he.symm.trans hd
    exact ⟨hy', hv', hn'⟩
  · rintro ⟨hy, hv, rfl⟩
    obtain ⟨rfl, rfl, rfl⟩ := time2Amiga_inj hy' hy hv' hv hn'
    exact he

theorem daysBeforeYear_succ (y : Nat) :
    daysBeforeYear (y+1) + y / 100 = 365 * y + y / 4 + y / 400 := by
  rw [daysBeforeYear, Nat.add_sub_cancel, Nat.add_right_comm, Nat.sub_add_cancel]
  exact Nat.le_trans (Nat.div_le_self y 100)
    (Nat.le_trans (Nat.le_mul_of_pos_left y (by decide)) (Nat.le_add_right _ _))

/-- inclusion–exclusion over 4, 100, 400, the subtracted term moved to the left -/
theorem yearLen_dvd (y : Nat) : yearLen y + (if 100 ∣ y then 1 else 0)
    = 365 + (if 4 ∣ y then 1 else 0) + (if 400 ∣ y then 1 else 0) := by
  simp only [yearLen, isLeap, ← Nat.dvd_iff_mod_eq_zero]
  by_cases h100 : 100 ∣ y
  · have h4 : 4 ∣ y := Nat.dvd_trans (by decide) h100
    by_cases h400 : 400 ∣ y <;> simp [h100, h4, h400]
  · have h400 : ¬ 400 ∣ y := fun h => h100 (Nat.dvd_trans (by decide) h)
    by_cases h4 : 4 ∣ y <;> simp [h100, h4, h400]

/-- `y / k` counts the multiples of `k` up to `y`, so each quotient in `daysBeforeYear` grows by
    exactly the corresponding term of `yearLen_dvd` -/
theorem yearLen_daysBeforeYear (y : Nat) (hy : 1 ≤ y) :
    daysBeforeYear (y+1) = daysBeforeYear y + yearLen y := by
  obtain ⟨z, rfl⟩ := Nat.exists_eq_add_of_le' hy
  have h1 := daysBeforeYear_succ z
  have h2 := daysBeforeYear_succ (z+1)
  rw [Nat.succ_div (b := 100), Nat.succ_div (b := 4), Nat.succ_div (b := 400)] at h2
  have := yearLen_dvd (z+1)
  omega

theorem sumYears_epoch (k : Nat) : sumYears k + epoch = daysBeforeYear (1978 + k) := by
  induction k with
  | zero => decide
  | succ k ih =>
    rw [sumYears, ← Nat.add_assoc 1978 k 1, yearLen_daysBeforeYear _ (by omega), ← ih]; omega

theorem sumMonths_monthStart (f : Bool) (m : Nat) (hm : m ≤ 12) :
    sumMonths f (m-1) = monthStart m + (if f && decide (m > 2) then 1 else 0) := by
  revert f m; decide

end Adf
