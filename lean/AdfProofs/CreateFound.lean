import AdfProofs.Create
/-!
# A created entry is linked under its name (C02, success path)

On a healthy device the description of a run of `adfCreateEntry` (`CreateEntryRun`) says what is on the disk afterwards:
the directory with the name's slot pointing to the new block when the slot was empty, else the last entry of the slot's
chain with its link set and nothing else changed.  When `adfCreateFile` / `adfCreateDir` have then written the new
header block (`CreateLinkRun`), that block passes the reader's validation, has an empty chain link and the name area
built for the requested name.
-/
namespace Adf

theorem LinkStep.dir_healthy {c : Cfg} {v b hv : Nat} {dir : Blk} {t : DateTime} {fix : Blk → Blk} {s s' : St} {r : Option Nat}
    (step : LinkStep c v b (dirKey (c.vol v) dir) (fix (stampDates (dir.setHash hv b) t)) s r s') (hfix : DirFix fix)
    (hf : s.faultAt = none) (hrw : (c.vol v).readOnly = false) (hwf : BlkWF dir) (hh : hv < 72)
    (hrd : Readable c v (dirKey (c.vol v) dir)) (hb : b < 4294967296) :
    r = some b ∧ Rewrote c v (dirKey (c.vol v) dir) (fun d => d.hash hv = b) s.disk s' :=
  have hwfS := stampDates_wf (t := t) (setHash_wf (i := hv) (v := b) hwf)
  -- the slot of the block on the disk is `b`: its value survives the checksum, the writer's fix-up and the date stamp
  step.healthy hf hrd hrw (hfix.wf _ hwfS) (hfix.type _ hwfS) <|
    (hash_frame (.inl (by decide)) hh).trans <|
    (hfix.keeps _ _ (Nat.le_add_right 6 hv) (Nat.add_le_add_left (Nat.le_of_lt_succ hh) 6)).trans <|
    (stampDates_hash _ _ _ hh).trans (setHash_hash hwf hh hb)

section
variable {c : Cfg} {v : Nat} {dir : Blk} {name : Bytes} {s s1 s2 : St} {r : Option Nat × Blk}

theorem CreateEntryRun.slot_healthy {nParent : Nat} (h : CreateEntryRun c v dir name s1 r s2) (r1 : Reads s s1)
    (hf : s.faultAt = none) (hrw : (c.vol v).readOnly = false)
    (hpar : EntryAt c s.disk v nParent dir) (hkey : dirKey (c.vol v) dir = nParent)
    (hslot : dir.hash (hashName (useIntl (c.vol v).dosType) name) = 0)
    (hsmall : ∀ k, bmIsFree (s.mem.vol v).bitmapTable k = true → k < 4294967296)
    (hvol : ∀ k, bmIsFree (s.mem.vol v).bitmapTable k = true → 2 ≤ k → Readable c v k ∧ vsect c v k ≠ vsect c v nParent) :
    ∀ b, r.1 = some b → s2.faultAt = none ∧ Readable c v b ∧ 2 ≤ b ∧ vsect c v b ≠ vsect c v nParent ∧
      Rewrote c v nParent (fun d => d.hash (hashName (useIntl (c.vol v).dosType) name) = b) s.disk s2 := by
  cases h with
  | refused => nofun
  | took link hb k step =>
    have hfree := r1.mem ▸ freeScan_free (hb ▸ List.mem_singleton_self _)
    cases link with
    | tail hne => exact absurd hslot hne
    | slot _ hfix =>
      obtain ⟨rfl, hR⟩ := step.dir_healthy hfix (r1.faultAt.trans hf) hrw hpar.wf (C15.C15_hash_lt _ _)
        (hkey ▸ hpar.1) (hsmall _ hfree)
      obtain ⟨hrb, hne⟩ := hvol _ hfree k.ge
      rintro _ ⟨⟩
      exact ⟨hR.1, hrb, k.ge, hne, hkey ▸ r1.disk ▸ hR⟩

theorem CreateAtRun.slot_healthy {t : Nat} {s' : St} (h : CreateAtRun c v dir name t s r s') (hf : s.faultAt = none)
    (hrw : (c.vol v).readOnly = false) (hwf : BlkWF dir) (hslot : dir.hash (hashName (useIntl (c.vol v).dosType) name) = 0)
    (hrd : Readable c v (dirKey (c.vol v) dir)) (ht32 : t < 4294967296) :
    r.1 = some t ∧
      Rewrote c v (dirKey (c.vol v) dir) (fun d => d.hash (hashName (useIntl (c.vol v).dosType) name) = t) s.disk s' := by
  cases h with
  | refused hne => exact absurd hslot hne
  | linked link step =>
    cases link with
    | tail hne => exact absurd hslot hne
    | slot _ hfix => exact step.dir_healthy hfix hf hrw hwf (C15.C15_hash_lt _ _) hrd ht32

theorem CreateEntryRun.chain_healthy (h : CreateEntryRun c v dir name s1 r s2) (r1 : Reads s s1)
    (pre : List (Nat × Blk)) (m : Nat) (last : Blk) (hf : s.faultAt = none) (hrw : (c.vol v).readOnly = false)
    (hch : ChainOn c s.disk v (dir.hash (hashName (useIntl (c.vol v).dosType) name)) (pre ++ [(m, last)]))
    (hlen : (pre ++ [(m, last)]).length ≤ (c.vol v).lastBlock - (c.vol v).firstBlock + 1)
    (hno : ∀ e ∈ pre ++ [(m, last)], ¬ nameMatches (useIntl (c.vol v).dosType) name e.2)
    (hself : last.w F_headerKey = m)
    (hsmall : ∀ k, bmIsFree (s.mem.vol v).bitmapTable k = true → k < 4294967296) :
    ∀ b, r.1 = some b → bmIsFree (s.mem.vol v).bitmapTable b = true ∧ 2 ≤ b ∧
      Rewrote c v m (fun l => l.w F_nextSameHash = b ∧ SameNameArea last l) s.disk s2 := by
  have hne : pre ++ [(m, last)] ≠ [] := List.append_ne_nil_of_right_ne_nil _ (List.cons_ne_nil _ _)
  have hlastE : EntryAt c s.disk v m last := (hch.entryAt_mem (m, last) (List.mem_append_right _ (List.mem_singleton_self _))).1
  cases h with
  | refused => nofun
  | @took b _ _ _ _ _ _ _ link hb k step =>
    have hfree := r1.mem ▸ freeScan_free (hb ▸ List.mem_singleton_self _)
    cases link with
    | slot hempty => exact absurd hempty (hch.ne_zero hne)
    | @tail fix upd _ _ walk hfix =>
      -- the walk returned the chain's last entry
      obtain ⟨⟨_, hr⟩, r2⟩ := (createEntryWalk_spec (F := AnyFault) c v _ name _ _ _ s1 hne hlen (r1.faultAt.trans hf)
        (r1.disk ▸ hch)).holds walk
      obtain rfl : upd = last := Option.some.inj ((hr hno).trans (by rw [List.getLast?_concat]; rfl))
      have hwf1 : BlkWF (upd.setW F_nextSameHash b) := setW_wf hlastE.wf
      obtain ⟨rfl, hR⟩ := step.healthy (P := fun l => l.w F_nextSameHash = b ∧ SameNameArea upd l)
        ((r1.trans r2).faultAt.trans hf) (hself ▸ hlastE.1) hrw (hfix.wf _ hwf1)
        (hfix.type _ hwf1 ((Blk.w_setW_ne (by decide)).trans hlastE.type))
        (relinked hlastE.wf (hsmall b hfree) (hfix.keeps _ _ (by decide) (by decide)) (hfix.name _))
      rintro _ ⟨⟩
      exact ⟨hfree, k.ge, hself ▸ (r1.trans r2).disk ▸ hR⟩

end

/-- `L` is whatever the caller knows of the disk once `adfCreateEntry` has handed out block `b` (`slot_healthy`,
    `chain_healthy`); it is passed on beside what the write of the new header adds -/
theorem CreateLinkRun.healthy {c : Cfg} {v nParent st : Nat} {name : Bytes} {fix : Blk → Blk} {parent : Blk} {s s' : St}
    {rc : RC} {cont : Bool} {L : Nat → St → Prop} (h : CreateLinkRun c v nParent name fix s rc cont s')
    (hnc : isDIRCACHE (c.vol v).dosType = false) (hrw : (c.vol v).readOnly = false)
    (hpar : EntryAt c s.disk v nParent parent) (hfix : HdrFix fix st)
    (hCE : ∀ s1 r s2, Reads s s1 → CreateEntryRun c v parent name s1 r s2 →
      ∀ b, r.1 = some b → s2.faultAt = none ∧ Readable c v b ∧ L b s2) :
    cont = true → ∃ b s2, L b s2 ∧ Rewrote c v b (fun hdr => FreshEntry name hdr ∧ hdr.secType = st) s2.disk s' := by
  cases h with
  | refused => nofun
  | noEntry => nofun
  | dircache hdc => exact Bool.absurd hdc hnc
  | @entry b _ e _ _ _ _ s2 _ r1 h fresh w =>
    intro _
    obtain ⟨hf2, hrb, hL⟩ := hCE _ _ _ r1 (show CreateEntryRun c v parent name _ _ _ from hpar.sector ▸ h) b rfl
    have hwf := hfix.entry.wf e fresh.1
    have hkeep := written_keeps (hfix.entry.keeps e _ (by decide) (by decide)) (hfix.entry.name e)
    exact ⟨b, s2, hL, (w.rewrote hf2 hrb hrw hwf (hfix.type e fresh.1)
      ⟨⟨withSum_wf hwf, fresh.2.1.trans hkeep.2, hkeep.1.trans fresh.2.2⟩,
        (withSum_w_ne (by decide)).trans (hfix.sec e fresh.1)⟩).2⟩

theorem Rewrote.chain {c : Cfg} {v n hv b : Nat} {disk : Std.HashMap Nat Bytes} {s2 s' : St} {name : Bytes} {P : Blk → Prop}
    (hL : Rewrote c v n (fun d => d.hash hv = b) disk s2) (hN : Rewrote c v b (fun hdr => FreshEntry name hdr ∧ P hdr) s2.disk s')
    (hb : 2 ≤ b) (hne : vsect c v b ≠ vsect c v n) :
    ∃ dir' hdr, EntryAt c s'.disk v n dir' ∧ ChainOn c s'.disk v (dir'.hash hv) [(b, hdr)] ∧ FreshEntry name hdr ∧ P hdr := by
  obtain ⟨_, x, dir', _, hE, hh⟩ := hL
  obtain ⟨_, y, hdr, hd, hEb, hH⟩ := hN
  exact ⟨dir', hdr, hd ▸ hE.insert_other y hne, hh.symm ▸ ⟨Nat.ne_of_gt (Nat.lt_of_succ_lt hb), rfl, hEb, hH.1.2.2⟩, hH⟩

end Adf
