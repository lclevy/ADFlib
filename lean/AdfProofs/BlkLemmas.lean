import AdfModel.Dir
/-!
# Words and bytes of a block image

What the accessors of `Blk` do to each other (`w`/`setW`, `byte`/`setByte`, `bytes`/`setBytes`), the shape `BlkWF` of an
image the library holds and what keeps it, and the sector codec `blkOfBytes`/`bytesOfBlk`.  Everything else about block
images goes through these.
-/
namespace Adf

theorem Blk.setW_length (b : Blk) (i v : Nat) : (b.setW i v).length = b.length := List.length_set

theorem Blk.w_setW_self {b : Blk} {i v : Nat} (hi : i < b.length) : (b.setW i v).w i = v % 4294967296 := by
  unfold Blk.setW Blk.w
  rw [List.getD_eq_getElem?_getD, List.getElem?_set_self hi]; rfl

theorem Blk.w_setW_same {b : Blk} {i v : Nat} (hi : i < b.length) (hv : v < 4294967296) : (b.setW i v).w i = v := by
  rw [Blk.w_setW_self hi, Nat.mod_eq_of_lt hv]

theorem Blk.w_setW_ne {b : Blk} {i j v : Nat} (h : i ≠ j) : (b.setW i v).w j = b.w j := by
  unfold Blk.w Blk.setW
  rw [List.getD_eq_getElem?_getD, List.getD_eq_getElem?_getD, List.getElem?_set_ne h]

/-- the hash table occupies words 6 … 77 -/
theorem table_ne {i k : Nat} (hi : i < 72) (hk : k < 6 ∨ 78 ≤ k) : F_table + i ≠ k := by
  unfold F_table; omega

theorem hash_frame {b : Blk} {k v i : Nat} (hk : k < 6 ∨ 78 ≤ k) (hi : i < 72) : (b.setW k v).hash i = b.hash i :=
  Blk.w_setW_ne (table_ne hi hk).symm

theorem setHash_w_ne {b : Blk} {i v k : Nat} (hi : i < 72) (hk : k < 6 ∨ 78 ≤ k) : (b.setHash i v).w k = b.w k :=
  Blk.w_setW_ne (table_ne hi hk)

theorem stampDates_w {b : Blk} {t : DateTime} {k : Nat} (h1 : k ≠ F_days) (h2 : k ≠ F_mins) (h3 : k ≠ F_ticks) :
    (stampDates b t).w k = b.w k := by
  unfold stampDates
  rw [Blk.w_setW_ne (Ne.symm h3), Blk.w_setW_ne (Ne.symm h2), Blk.w_setW_ne (Ne.symm h1)]

theorem stampDates_hash (b : Blk) (t : DateTime) (i : Nat) (hi : i < 72) : (stampDates b t).hash i = b.hash i := by
  unfold Blk.hash
  exact stampDates_w (by unfold F_table F_days; omega) (by unfold F_table F_mins; omega) (by unfold F_table F_ticks; omega)

/-- a struct image as the library holds it: 128 words, each a 32-bit value -/
def BlkWF (b : Blk) : Prop := b.length = 128 ∧ ∀ w ∈ b, w < 4294967296

theorem Blk.w_lt_of {b : Blk} (h : ∀ w ∈ b, w < 4294967296) (k : Nat) : b.w k < 4294967296 := by
  unfold Blk.w
  rw [List.getD_eq_getElem?_getD]
  by_cases hk : k < b.length
  · rw [List.getElem?_eq_getElem hk]; exact h _ (List.getElem_mem hk)
  · rw [List.getElem?_eq_none (Nat.le_of_not_lt hk)]; decide

theorem Blk.w_lt (b : Blk) (h : BlkWF b) (k : Nat) : b.w k < 4294967296 := Blk.w_lt_of h.2 k

theorem zeroBlk_w (k : Nat) : zeroBlk.w k = 0 := by
  unfold zeroBlk Blk.w
  rw [List.getD_eq_getElem?_getD, List.getElem?_replicate]
  split <;> rfl

theorem zeroBlk_wf : BlkWF zeroBlk :=
  ⟨List.length_replicate, fun _ hw => (List.eq_of_mem_replicate hw) ▸ (by decide)⟩

theorem setW_wf {b : Blk} {i v : Nat} (h : BlkWF b) : BlkWF (b.setW i v) := by
  refine ⟨(Blk.setW_length b i v).trans h.1, fun w hw => ?_⟩
  rcases List.mem_or_eq_of_mem_set hw with h' | h'
  · exact h.2 w h'
  · rw [h']; exact Nat.mod_lt _ (by decide)

theorem setHash_wf {b : Blk} {i v : Nat} (h : BlkWF b) : BlkWF (b.setHash i v) := setW_wf h

theorem setHash_hash {b : Blk} {i v : Nat} (hwf : BlkWF b) (hi : i < 72) (hv : v < 4294967296) : (b.setHash i v).hash i = v :=
  Blk.w_setW_same (by rw [hwf.1]; unfold F_table; omega) hv

theorem withSum_wf {b : Blk} {k : Nat} (h : BlkWF b) : BlkWF (withSum b k) := setW_wf h

theorem rootFixed_wf {b : Blk} (h : BlkWF b) : BlkWF (rootFixed b) := by
  unfold rootFixed
  repeat apply setW_wf
  exact h

theorem dirFixed_wf {b : Blk} (h : BlkWF b) : BlkWF (dirFixed b) := by
  unfold dirFixed
  repeat apply setW_wf
  exact h

theorem fileHdrFixed_wf {b : Blk} (h : BlkWF b) : BlkWF (fileHdrFixed b) := by
  unfold fileHdrFixed
  repeat apply setW_wf
  exact h

theorem stampDates_wf {b : Blk} {t : DateTime} (h : BlkWF b) : BlkWF (stampDates b t) := by
  unfold stampDates
  repeat apply setW_wf
  exact h

/-! The writers' normalisers `rootFixed`, `dirFixed`, `fileHdrFixed`, `fileExtFixed` and `withSum` are chains of `setW`;
every other word is kept.  With a concrete field for `i` the hypothesis is closed by `by decide`. -/

theorem withSum_w_ne {b : Blk} {k i : Nat} (h : k ≠ i) : (withSum b k).w i = b.w i := Blk.w_setW_ne h

theorem not_mem_of_window {l : List Nat} {lo hi k : Nat} (hl : ∀ x ∈ l, x < lo ∨ hi < x) (h1 : lo ≤ k) (h2 : k ≤ hi) :
    k ∉ l :=
  fun h => (hl k h).elim (fun h => absurd h1 (Nat.not_le_of_lt h)) (fun h => absurd h2 (Nat.not_le_of_lt h))

theorem rootFixed_w (b : Blk) (i : Nat)
    (h : i ∉ [F_type, F_headerKey, F_highSeq, F_dataSize, F_firstData, F_nextSameHash, F_parent, F_secType]) :
    (rootFixed b).w i = b.w i := by
  simp only [List.mem_cons, List.not_mem_nil, or_false, not_or] at h
  unfold rootFixed
  rw [Blk.w_setW_ne (Ne.symm h.2.2.2.2.2.2.2), Blk.w_setW_ne (Ne.symm h.2.2.2.2.2.2.1),
    Blk.w_setW_ne (Ne.symm h.2.2.2.2.2.1), Blk.w_setW_ne (Ne.symm h.2.2.2.2.1),
    Blk.w_setW_ne (Ne.symm h.2.2.2.1), Blk.w_setW_ne (Ne.symm h.2.2.1),
    Blk.w_setW_ne (Ne.symm h.2.1), Blk.w_setW_ne (Ne.symm h.1)]

theorem dirFixed_w (b : Blk) (i : Nat) (h : i ∉ [F_type, F_highSeq, F_dataSize, F_secType]) : (dirFixed b).w i = b.w i := by
  simp only [List.mem_cons, List.not_mem_nil, or_false, not_or] at h
  unfold dirFixed
  rw [Blk.w_setW_ne (Ne.symm h.2.2.2), Blk.w_setW_ne (Ne.symm h.2.2.1),
    Blk.w_setW_ne (Ne.symm h.2.1), Blk.w_setW_ne (Ne.symm h.1)]

theorem fileHdrFixed_w (b : Blk) (i : Nat) (h : i ∉ [F_type, F_dataSize, F_secType]) : (fileHdrFixed b).w i = b.w i := by
  simp only [List.mem_cons, List.not_mem_nil, or_false, not_or] at h
  unfold fileHdrFixed
  rw [Blk.w_setW_ne (Ne.symm h.2.2), Blk.w_setW_ne (Ne.symm h.2.1), Blk.w_setW_ne (Ne.symm h.1)]

theorem fileExtFixed_w (b : Blk) (i : Nat) (h : i ∉ [F_type, F_secType, F_dataSize, F_firstData]) :
    (fileExtFixed b).w i = b.w i := by
  simp only [List.mem_cons, List.not_mem_nil, or_false, not_or] at h
  unfold fileExtFixed
  rw [Blk.w_setW_ne (Ne.symm h.2.2.2), Blk.w_setW_ne (Ne.symm h.2.2.1),
    Blk.w_setW_ne (Ne.symm h.2.1), Blk.w_setW_ne (Ne.symm h.1)]

theorem blkOfBytes_wf (bytes : Bytes) : BlkWF (blkOfBytes bytes) :=
  ⟨wordsOf_length 128 _ (padTo_length _ _), wordsOf_lt _⟩

theorem blkOfBytes_bytesOfBlk {b : Blk} (h : BlkWF b) : blkOfBytes (bytesOfBlk b) = b := by
  unfold blkOfBytes bytesOfBlk
  rw [padTo_id _ _ (by rw [bytesOfWords_length, h.1])]
  exact wordsOf_bytesOfWords b h.2

/-! A byte of a block is a base-256 digit of one of its words; `setByte` replaces that digit. -/

theorem digit_mod_pow (x p q : Nat) (h : q < p) : x % 256 ^ p / 256 ^ q % 256 = x / 256 ^ q % 256 := by
  obtain ⟨k, rfl⟩ := Nat.exists_eq_add_of_lt h
  rw [Nat.add_assoc, Nat.pow_add, Nat.mod_mul_right_div_self, Nat.pow_succ, Nat.mod_mul_left_mod]

/-- taking the digit at `s = 256 ^ p` out of `w` and putting `v` there, as `setByte` does: the part above, `v`, the part
    below -/
theorem digit_set_eq (w v s : Nat) :
    w - w / s % 256 * s + v * s = (w / s / 256 * 256 + v) * s + w % s := by
  have hw : w = w / s / 256 * 256 * s + w % s + w / s % 256 * s := by
    rw [Nat.add_right_comm, ← Nat.add_mul, Nat.div_add_mod', Nat.div_add_mod']
  rw [Nat.sub_eq_of_eq_add hw, Nat.add_mul, Nat.add_right_comm]

theorem digit_set (w v p q : Nat) (hv : v < 256) :
    (w - w / 256 ^ p % 256 * 256 ^ p + v * 256 ^ p) / 256 ^ q % 256 = if p = q then v else w / 256 ^ q % 256 := by
  have hs : 0 < 256 ^ p := Nat.pow_pos (by decide)
  rw [digit_set_eq]
  rcases Nat.lt_or_ge q p with h | h
  · -- a lower digit: look at both numbers modulo `256 ^ p`
    rw [if_neg (Nat.ne_of_gt h), ← digit_mod_pow _ p q h, Nat.mul_add_mod_self_right, Nat.mod_mod, digit_mod_pow _ p q h]
  · -- digit `p + j`: divide by `256 ^ p` first
    obtain ⟨j, rfl⟩ := Nat.exists_eq_add_of_le h
    rw [Nat.pow_add, ← Nat.div_div_eq_div_mul, ← Nat.div_div_eq_div_mul, Nat.add_comm _ (w % _),
      Nat.add_mul_div_right _ _ hs, Nat.div_eq_of_lt (Nat.mod_lt _ hs), Nat.zero_add]
    cases j with
    | zero => rw [if_pos (show p = p + 0 from rfl), Nat.pow_zero, Nat.div_one, horner_mod _ hv]
    | succ j =>
      rw [if_neg (Nat.ne_of_lt (Nat.lt_add_of_pos_right (Nat.succ_pos j))), Nat.pow_succ, Nat.mul_comm (256 ^ j), ← Nat.div_div_eq_div_mul, ← Nat.div_div_eq_div_mul,
        horner_div _ hv]

theorem setByte_w_ne {b : Blk} {off v k : Nat} (h : off / 4 ≠ k) : (b.setByte off v).w k = b.w k :=
  Blk.w_setW_ne h

theorem setByte_wf {b : Blk} {off v : Nat} (h : BlkWF b) : BlkWF (b.setByte off v) := setW_wf h

theorem Blk.byte_setByte (b : Blk) (off v off' : Nat) (hwf : BlkWF b) (hoff : off / 4 < 128) :
    (b.setByte off v).byte off' = if off = off' then v % 256 else b.byte off' := by
  unfold Blk.byte
  by_cases hk : off / 4 = off' / 4
  · rw [← hk]
    unfold Blk.setByte
    rw [Blk.w_setW_self (hwf.1 ▸ hoff), show (4294967296 : Nat) = 256 ^ 4 from rfl,
      digit_mod_pow _ 4 _ (Nat.lt_succ_of_le (Nat.sub_le _ _)), digit_set _ _ _ _ (Nat.mod_lt _ (by decide))]
    by_cases he : off = off'
    · rw [if_pos he, if_pos (by rw [he])]
    · rw [if_neg he, if_neg fun h => he ?_]
      -- the same word (`hk`) and the same digit (`h : 3 - off % 4 = 3 - off' % 4`) mean the same offset:
      -- `off = 4 * (off / 4) + (3 - (3 - off % 4))`
      have h4 := fun x => Nat.le_of_lt_succ (Nat.mod_lt x (by decide : 0 < 4))
      rw [← Nat.div_add_mod off 4, ← Nat.div_add_mod off' 4, hk, ← Nat.sub_sub_self (h4 off), h, Nat.sub_sub_self (h4 off')]
  · rw [setByte_w_ne hk, if_neg (fun he => hk (by rw [he]))]

theorem Blk.setBytes_induction {P : Nat → Blk → Prop} (b : Blk) (off : Nat) (bs : Bytes) (h0 : P 0 b)
    (hs : ∀ n acc, n < bs.length → P n acc → P (n + 1) (acc.setByte (off + n) (bs.getD n 0).toNat)) :
    P bs.length (b.setBytes off bs) := by
  have : ∀ n, n ≤ bs.length → P n ((List.range n).foldl (fun acc i => acc.setByte (off + i) (bs.getD i 0).toNat) b) := by
    intro n
    induction n with
    | zero => exact fun _ => h0
    | succ n ih => intro hn; rw [List.range_succ, List.foldl_append]; exact hs n _ hn (ih (Nat.le_of_succ_le hn))
  exact this _ (Nat.le_refl _)

theorem setBytes_wf {b : Blk} {off : Nat} {bs : Bytes} (h : BlkWF b) : BlkWF (b.setBytes off bs) :=
  Blk.setBytes_induction (P := fun _ acc => BlkWF acc) b off bs h fun _ _ _ => setByte_wf

/-- word `k` holds the bytes `4 * k … 4 * k + 3` -/
theorem setBytes_w_ne {b : Blk} {off k : Nat} {bs : Bytes} (h : off + bs.length ≤ 4 * k ∨ 4 * k + 4 ≤ off) :
    (b.setBytes off bs).w k = b.w k :=
  Blk.setBytes_induction (P := fun _ acc => acc.w k = b.w k) b off bs rfl
    fun n _ hn ih => (setByte_w_ne (by omega)).trans ih

theorem Blk.byte_setBytes (b : Blk) (off : Nat) (bs : Bytes) (hwf : BlkWF b) (hle : off + bs.length ≤ 512) (p : Nat) :
    (b.setBytes off bs).byte p = if off ≤ p ∧ p < off + bs.length then (bs.getD (p - off) 0).toNat % 256 else b.byte p := by
  refine (Blk.setBytes_induction (P := fun n acc => BlkWF acc ∧
    acc.byte p = if off ≤ p ∧ p < off + n then (bs.getD (p - off) 0).toNat % 256 else b.byte p) b off bs
    ⟨hwf, by rw [if_neg (by omega)]⟩ ?_).2
  intro n acc hn ⟨hacc, ih⟩
  refine ⟨setByte_wf hacc, ?_⟩
  rw [Blk.byte_setByte _ _ _ _ hacc (Nat.div_lt_of_lt_mul (by omega)), ih]
  by_cases hp : off + n = p
  · rw [if_pos hp, ← hp, if_pos ⟨Nat.le_add_right _ _, Nat.lt_succ_self _⟩, Nat.add_sub_cancel_left]
  · have : (off ≤ p ∧ p < off + (n + 1)) ↔ (off ≤ p ∧ p < off + n) := by omega
    rw [if_neg hp]
    simp only [this]

theorem Blk.bytes_length (b : Blk) (off len : Nat) : (b.bytes off len).length = len := by
  unfold Blk.bytes; rw [List.length_map, List.length_range]

theorem Blk.bytes_setBytes (b : Blk) (off : Nat) (bs : Bytes) (hwf : BlkWF b) (hle : off + bs.length ≤ 512) :
    (b.setBytes off bs).bytes off bs.length = bs := by
  apply List.ext_getElem (Blk.bytes_length ..)
  intro i h1 h2
  simp only [Blk.bytes, List.getElem_map, List.getElem_range]
  rw [Blk.byte_setBytes _ _ _ hwf hle, if_pos ⟨Nat.le_add_right .., Nat.add_lt_add_left h2 _⟩, Nat.add_sub_cancel_left,
    List.getD_eq_getElem?_getD,
    List.getElem?_eq_getElem h2, Option.getD_some, Nat.mod_eq_of_lt (bs[i]).toNat_lt]
  exact UInt8.ofNat_toNat

end Adf
