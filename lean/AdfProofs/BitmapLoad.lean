/-
  The bitmap loader `adfReadBitmap` (C10, C11): for any root block, any device content (page pointers, extension chains,
  cycles) and any fault schedule it never indexes past the table it allocated — it raises no model fault at all — and
  the number of device accesses it makes is bounded by the volume size.
-/
import AdfProofs.BlockIO
import AdfModel.Bitmap
namespace Adf

def TblLen (v size : Nat) (s : St) : Prop := (s.mem.vol v).bitmapTable.length = size

/-- a stretch of the loader: at most `k` device accesses; the table keeps its length only as long as OK is reported,
    since on a failed read the loader frees it (`freeBitmap`) -/
def PagesOK (v size : Nat) (s : St) (k : Nat) (rc : RC) (s' : St) : Prop :=
  s'.ioCount ≤ s.ioCount + k ∧ (rc = rcOK → TblLen v size s')

theorem PagesOK.fail {v size k : Nat} {s s' : St} {rc : RC} (hio : s'.ioCount ≤ s.ioCount + k) (hrc : rc ≠ rcOK) :
    PagesOK v size s k rc s' := ⟨hio, fun hk => absurd hk hrc⟩

theorem PagesOK.step {v size k : Nat} {s s1 s' : St} {rc1 rc : RC} (h1 : PagesOK v size s 1 rc1 s1)
    (h : PagesOK v size s1 k rc s') : PagesOK v size s (k + 1) rc s' := ⟨io_add h1.1 h.1, h.2⟩

section
variable {F : Fault → Prop} (c : Cfg) (v size : Nat)

theorem loadBitmapPage_spec (j nSect : Nat) (s : St) (hj : j < size) (hs : TblLen v size s) :
    Post F c (loadBitmapPage v j nSect) s (PagesOK v size s 1) := by
  unfold loadBitmapPage
  apply Post.bind; apply Post.getVolMem
  -- the slot is inside the table, so the out-of-bounds fault is not raised
  refine Post.ite (fun hge => absurd hj (Nat.not_lt.mpr (hs ▸ hge))) fun _ => ?_
  apply Post.bind; apply Post.setVolMem
  apply Post.bind; apply Post.readFileExtBlock
  intro rc pg s' r
  refine Post.ite (fun hrc => ?_) fun _ => ?_
  · apply Post.bind; apply Post.modVolMem
    exact Post.pure (.fail r.io hrc)
  · apply Post.bind; apply Post.modVolMem
    refine Post.pure ⟨r.io, fun _ => ?_⟩
    unfold TblLen at hs ⊢
    simp only [Mem.vol_setVol, List.length_set, r.reads.mem]
    exact hs

theorem readBitmapRootPages_spec (root : Blk) : ∀ (fuel i : Nat) (s : St), TblLen v size s →
    Post F c (readBitmapRootPages v size root fuel i) s (fun r s' => PagesOK v size s fuel r.1 s') := by
  intro fuel
  induction fuel with
  | zero => intro i s hs; exact Post.pure ⟨Nat.le_refl _, fun _ => hs⟩
  | succ fuel ih =>
    intro i s hs
    unfold readBitmapRootPages
    refine Post.ite (fun hc => ?_) fun _ => Post.pure ⟨Nat.le_add_right .., fun _ => hs⟩
    apply Post.bind
    refine (loadBitmapPage_spec c v size i _ s hc.2.2 hs).mono fun rc s1 h1 => ?_
    refine Post.ite (fun hrc => Post.pure (.fail (io_add h1.1 (Nat.le_add_right ..)) hrc)) fun hrc => ?_
    exact (ih _ s1 (h1.2 (Classical.not_not.mp hrc))).mono fun _ _ h => h1.step h

theorem readBitmapExtPages_spec (ext : Blk) : ∀ (fuel i j : Nat) (s : St), TblLen v size s →
    Post F c (readBitmapExtPages v size ext fuel i j) s (fun r s' => PagesOK v size s fuel r.1 s') := by
  intro fuel
  induction fuel with
  | zero => intro i j s hs; exact Post.pure ⟨Nat.le_refl _, fun _ => hs⟩
  | succ fuel ih =>
    intro i j s hs
    unfold readBitmapExtPages
    refine Post.ite (fun hc => ?_) fun _ => Post.pure ⟨Nat.le_add_right .., fun _ => hs⟩
    apply Post.bind
    refine (loadBitmapPage_spec c v size j _ s hc.2 hs).mono fun rc s1 h1 => ?_
    refine Post.ite (fun hrc => Post.pure (.fail (io_add h1.1 (Nat.le_add_right ..)) hrc)) fun hrc => ?_
    exact (ih _ _ s1 (h1.2 (Classical.not_not.mp hrc))).mono fun _ _ h => h1.step h

/-- the bitmap-extension chain: per block one access and at most 128 pages, whatever the chain links to -/
theorem readBitmapExtChain_spec : ∀ (fuel nSect j : Nat) (s : St), TblLen v size s →
    Post F c (readBitmapExtChain v size fuel nSect j) s (fun _ s' => s'.ioCount ≤ s.ioCount + 129 * fuel) := by
  intro fuel
  induction fuel with
  | zero => intro n j s _; exact Post.pure (Nat.le_refl _)
  | succ fuel ih =>
    intro n j s hs
    unfold readBitmapExtChain
    refine Post.ite (fun _ => Post.pure (Nat.le_add_right ..)) fun _ => ?_
    apply Post.bind; apply Post.readFileExtBlock
    intro rc ext s1 r
    have h1 : s1.ioCount ≤ s.ioCount + 129 := Nat.le_trans r.io (Nat.add_le_add_left (by decide) _)
    refine Post.ite (fun _ => ?_) fun _ => ?_
    · apply Post.bind; apply Post.modVolMem
      exact Post.pure (io_add h1 (Nat.le_add_right ..))
    apply Post.bind
    refine (readBitmapExtPages_spec c v size ext 128 0 j s1 (by unfold TblLen at hs ⊢; rw [r.reads.mem]; exact hs)).mono ?_
    rintro ⟨rc2, j2⟩ s2 ⟨hio2, hs2⟩
    have h2 : s2.ioCount ≤ s.ioCount + 129 := Nat.le_trans hio2 (Nat.add_le_add_right r.io 128)
    refine Post.ite (fun _ => Post.pure (io_add h2 (Nat.le_add_right ..))) fun hrc2 => ?_
    exact (ih _ _ s2 (hs2 (Classical.not_not.mp hrc2))).mono fun _ _ h => io_add h2 h

/-- **`adfReadBitmap`** raises no model fault — in particular never the out-of-bounds access to the page table the
    original code had for images with more pages than the volume size implies — and performs at most
    `26 + 129·(volume size + 2)` device reads, whatever page pointers and extension chains (including cyclic ones) the
    image contains -/
theorem readBitmap_spec (nBlock : Nat) (root : Blk) (s : St) :
    Post F c (readBitmap v nBlock root) s (fun _ s' =>
      s'.ioCount ≤ s.ioCount + 26 + 129 * ((c.vol v).lastBlock - (c.vol v).firstBlock + 2)) := by
  unfold readBitmap
  apply Post.bind; apply Post.modVolMem
  apply Post.bind
  refine (readBitmapRootPages_spec c v _ root 26 0 _ (by unfold TblLen; simp)).mono ?_
  rintro ⟨rc, j⟩ s1 ⟨hio, hs⟩
  have hio : s1.ioCount ≤ s.ioCount + 26 := hio
  refine Post.ite (fun _ => Post.pure (Nat.le_trans hio (Nat.le_add_right ..))) fun hrc => ?_
  apply Post.bind; apply Post.getVolCfg
  exact (readBitmapExtChain_spec c v _ _ _ _ s1 (hs (Classical.not_not.mp hrc))).mono fun _ _ h =>
    Nat.le_trans h (Nat.add_le_add_right hio _)

end

end Adf
