import AdfProofs.BitmapOrder
import AdfProofs.BlkLemmas
import AdfProofs.Allocator
import AdfProofs.Effects
/-!
# What a write handle sends to the device: `adfFileFlush`, `adfFileCreateNextBlock`, and the buffer in between

The header block a write handle holds is a copy taken at open time.  `adfFileFlush` writes that copy back; everything the
directory layer may have changed on the disk in between (the chain link `nextSameHash`, `parent`, protection, name, comment)
has to come from the disk, or a flush unlinks entries that were inserted behind the file in its hash chain (the defect
repaired by 5ae3d82): `fileFlushHdr_spec`.

Then the rule for `adfWriteDataBlock` (`Post.writeDataBlock`) and the vocabulary of the write set of `adfFileFlush` (C18 /
C01).  `adfFileCreateNextBlock` is followed once: `NextBlockRun` says how a call went — it took no block and only read, or
it took what the allocation site it reached asked for and wrote at most an extension block and the data buffer — and its
write set (C18) and its refusal on a full volume (C08) are read off that by cases.  Last, `adfFileWrite` inside one data
block, where the model's loop is a pure function of the handle: `wroteInBlock`.
-/
namespace Adf

theorem refreshed_wf (hdr d : Blk) (h : BlkWF hdr) : BlkWF (refreshed hdr d) := by
  unfold refreshed
  exact setBytes_wf (setByte_wf (setBytes_wf (setByte_wf (setW_wf (setW_wf (setW_wf h))))))

/-- words outside the name and comment areas are not touched by the byte copies of the refresh -/
theorem refreshed_frame (hdr d : Blk) {k : Nat} (hk : k < 82 ∨ (102 < k ∧ k < 108) ∨ 115 < k) :
    (refreshed hdr d).w k =
      (((hdr.setW F_nextSameHash (d.w F_nextSameHash)).setW F_parent (d.w F_parent)).setW F_access (d.w F_access)).w k := by
  unfold refreshed
  rw [setBytes_w_ne (by rw [Blk.bytes_length]; unfold O_comment; omega),
    setByte_w_ne (by unfold O_commLen; omega),
    setBytes_w_ne (by rw [Blk.bytes_length]; unfold O_name; omega),
    setByte_w_ne (by unfold O_nameLen; omega)]

theorem refreshed_headerKey (hdr d : Blk) : (refreshed hdr d).w F_headerKey = hdr.w F_headerKey := by
  rw [refreshed_frame hdr d (Or.inl (by decide)), Blk.w_setW_ne (by decide), Blk.w_setW_ne (by decide),
    Blk.w_setW_ne (by decide)]

theorem refreshed_words (hdr d : Blk) (hl : hdr.length = 128) (hd : ∀ w ∈ d, w < 4294967296) :
    (refreshed hdr d).w F_nextSameHash = d.w F_nextSameHash ∧ (refreshed hdr d).w F_parent = d.w F_parent ∧
    (refreshed hdr d).w F_access = d.w F_access := by
  refine ⟨?_, ?_, ?_⟩
  · rw [refreshed_frame hdr d (Or.inr (Or.inr (by decide))), Blk.w_setW_ne (by decide),
      Blk.w_setW_ne (by decide)]
    exact Blk.w_setW_same (by rw [hl]; decide) (Blk.w_lt_of hd _)
  · rw [refreshed_frame hdr d (Or.inr (Or.inr (by decide))), Blk.w_setW_ne (by decide)]
    exact Blk.w_setW_same (by rw [Blk.setW_length, hl]; decide) (Blk.w_lt_of hd _)
  · rw [refreshed_frame hdr d (Or.inl (by decide))]
    exact Blk.w_setW_same (by rw [Blk.setW_length, Blk.setW_length, hl]; decide) (Blk.w_lt_of hd _)

/-- the three directory-owned words of a header sector image -/
def linkOfSector (data : Bytes) : Nat × Nat × Nat :=
  ((blkOfBytes data).w F_nextSameHash, (blkOfBytes data).w F_parent, (blkOfBytes data).w F_access)

theorem hdrImage_words {f : Blk} (h : BlkWF f) :
    linkOfSector (bytesOfBlk (withSum (fileHdrFixed f) F_checkSum)) = (f.w F_nextSameHash, f.w F_parent, f.w F_access) := by
  unfold linkOfSector
  rw [blkOfBytes_bytesOfBlk (withSum_wf (fileHdrFixed_wf h)), withSum_w_ne (by decide),
    withSum_w_ne (by decide), withSum_w_ne (by decide), fileHdrFixed_w _ _ (by decide),
    fileHdrFixed_w _ _ (by decide), fileHdrFixed_w _ _ (by decide)]

/-- the header part of `adfFileFlush` (C02_flush_keeps_chain_link): the `nextSameHash`, `parent` and `access` words it
    writes are those of the sector as it was on the disk when the flush began, not those of the copy the handle took at
    open time -/
theorem fileFlushHdr_spec (c : Cfg) (h : FileH) (s : St) (hwf : BlkWF h.hdr) :
    Post AnyFault c (fileFlushHdr h) s (fun r s' => (∃ hdr, r.2 = { h with hdr := hdr }) ∧
      (Wrote s s' [] ∨
       ∃ data st, Wrote s s' [Ev.wr (some h.vol) (vsect c h.vol (h.hdr.w F_headerKey)) 512 data st] ∧
        linkOfSector data = linkOfSector ((s.sector (vsect c h.vol (h.hdr.w F_headerKey))).take 512))) := by
  unfold fileFlushHdr
  apply Post.bind; apply Post.readEntryBlock
  intro rc d s1 r1 _
  refine Post.ite (fun _ => Post.pure ⟨⟨_, rfl⟩, .inl r1.reads.wrote⟩) (fun hrc => ?_)
  have hd := r1.ok (Classical.not_not.mp hrc)
  apply Post.bind; apply Post.now
  apply Post.bind; apply Post.writeFileHdrBlock
  intro rc2 s2 w
  refine Post.pure ⟨⟨_, rfl⟩, ?_⟩
  rcases w.wrote with ⟨hw, _⟩ | ⟨st, hw, _⟩
  · exact .inl (r1.reads.toNoWrite.then_wrote hw)
  · -- the projections of the handle are reduced first: the unifier must not be asked to compare `refreshed …` with
    -- anything but itself, its normal form is a fold over 111 bytes
    dsimp only at hw
    rw [stampDates_w (by decide) (by decide) (by decide), refreshed_headerKey] at hw
    refine .inr ⟨_, st, r1.reads.toNoWrite.then_wrote hw, ?_⟩
    rw [hdrImage_words (stampDates_wf (refreshed_wf _ _ hwf))]
    have hdwf := blkOfBytes_wf ((s.sector (vsect c h.vol (h.hdr.w F_headerKey))).take 512)
    rw [← hd] at hdwf
    obtain ⟨h1, h2, h3⟩ := refreshed_words h.hdr d hwf.1 hdwf.2
    rw [stampDates_w (by decide) (by decide) (by decide), stampDates_w (by decide) (by decide) (by decide),
      stampDates_w (by decide) (by decide) (by decide), h1, h2, h3]
    unfold linkOfSector; rw [← hd]

/-- what `adfWriteDataBlock` puts on the device for buffer `d` -/
def dataImage (vc : VolCfg) (d : Bytes) : Bytes :=
  if vc.dosType % 2 = 0 then bytesOfBlk (withSum ((blkOfBytes d).setW 0 T_DATA) F_checkSum) else padTo d 512

/-- the data buffer as `adfFileFlush` hands it to `adfWriteDataBlock` (OFS: the block's dataSize field is set) -/
def flushData (vc : VolCfg) (h : FileH) : Bytes :=
  if isOFSvol vc then
    setBE32 h.curData 12 (if h.nDataBlock < fileSize2Datablocks h.byteSize vc.datablockSize then vc.datablockSize
      else h.byteSize - (fileSize2Datablocks h.byteSize vc.datablockSize - 1) * vc.datablockSize)
  else h.curData

theorem Post.writeDataBlock {F : Fault → Prop} {c : Cfg} {v n : Nat} {d : Bytes} {s : St} {Q : RC × Bytes → St → Prop}
    (h : ∀ r s' W, Wrote s s' W → (W = [] ∨ ∃ st, W = [Ev.wr (some v) (vsect c v n) 512 (dataImage (c.vol v) d) st]) →
      Q r s') :
    Post F c (Adf.writeDataBlock v n d) s Q := by
  unfold Adf.writeDataBlock
  refine Post.ite (fun _ => Post.pure (h _ _ [] (.refl s) (.inl rfl))) (fun _ => ?_)
  apply Post.bind; apply Post.getVolCfg
  have one : ∀ {b r rc s'}, dataImage (c.vol v) d = b → WriteStep c v n b s rc s' → Q r s' := fun hb w =>
    let ⟨W, hW, h1⟩ := w.atMostOne
    h _ _ W hW (hb ▸ h1)
  refine Post.ite (fun hofs => ?_) (fun hofs => ?_)
  · apply Post.bind; apply Post.write
    intro rc s' w
    exact Post.pure (one (if_pos hofs) w)
  · apply Post.bind; apply Post.write
    intro rc s' w
    exact Post.pure (one (if_neg hofs) w)

/-- the device writes of `adfFileFlush` (newest first; volumes without directory cache): at most one write of the
    current extension block to where it says it lives, at most one write of the data buffer to the block the handle
    designates, at most one write of the header to its own sector, then a bitmap update — and nothing else -/
def FlushWrites (c : Cfg) (h : FileH) (W : List Ev) : Prop :=
  ∃ Wbm Whdr Wdat Wext, W = Wbm ++ Whdr ++ Wdat ++ Wext ∧
    (Wext = [] ∨ ∃ ce st, h.curExt = some ce ∧
      Wext = [Ev.wr (some h.vol) (vsect c h.vol (ce.w F_headerKey)) 512 (bytesOfBlk (withSum (fileExtFixed ce) F_checkSum)) st]) ∧
    (Wdat = [] ∨ ∃ st, Wdat = [Ev.wr (some h.vol) (vsect c h.vol h.curDataPtr) 512
      (dataImage (c.vol h.vol) (flushData (c.vol h.vol) h)) st]) ∧
    (Whdr = [] ∨ ∃ data st, Whdr = [Ev.wr (some h.vol) (vsect c h.vol (h.hdr.w F_headerKey)) 512 data st]) ∧
    BmOrder c h.vol Wbm

/-- at most one extension block rewritten where it says it lives -/
def ExtWr (c : Cfg) (v : Nat) (W : List Ev) : Prop :=
  W = [] ∨ ∃ ce st, W = [Ev.wr (some v) (vsect c v (ce.w F_headerKey)) 512 (bytesOfBlk (withSum (fileExtFixed ce) F_checkSum)) st]

/-- at most one write of a data buffer `d` to block `n`; on FFS volumes `d` is the handle's buffer as it is -/
def DataWr (c : Cfg) (h : FileH) (W : List Ev) : Prop :=
  W = [] ∨ ∃ d st, W = [Ev.wr (some h.vol) (vsect c h.vol h.curDataPtr) 512 (dataImage (c.vol h.vol) d) st] ∧
    (isOFSvol (c.vol h.vol) = false → d = h.curData)

/-- the handle fields that say where the data buffer goes and what it holds; `adfFileCreateNextBlock` changes none of
    them before it writes the buffer -/
structure SameBuf (h h' : FileH) : Prop where
  vol : h'.vol = h.vol
  curData : h'.curData = h.curData
  curDataPtr : h'.curDataPtr = h.curDataPtr

theorem SameBuf.set {h h' : FileH} (k : SameBuf h h') {hdr : Blk} {ce : Option Blk} {pe : Nat} :
    SameBuf h { h' with hdr := hdr, curExt := ce, posInExtBlk := pe } := ⟨k.vol, k.curData, k.curDataPtr⟩

/-- the parts of the handle a failed block allocation keeps: header copy, position, size bookkeeping, data buffer -/
def KeptW (h h' : FileH) : Prop :=
  h'.hdr = h.hdr ∧ h'.pos = h.pos ∧ h'.nDataBlock = h.nDataBlock ∧ h'.curData = h.curData ∧ h'.curDataPtr = h.curDataPtr ∧
  h'.vol = h.vol ∧ h'.posInDataBlk = h.posInDataBlk

theorem KeptW.refl (h : FileH) : KeptW h h := ⟨rfl, rfl, rfl, rfl, rfl, rfl, rfl⟩

theorem KeptW.set {h h' : FileH} (k : KeptW h h') {e : Option Blk} {p : Nat} :
    KeptW h { h' with curExt := e, posInExtBlk := p } := k

theorem KeptW.sameBuf {h h' : FileH} (k : KeptW h h') : SameBuf h h' := ⟨k.2.2.2.2.2.1, k.2.2.2.1, k.2.2.2.2.1⟩

/-- `adfFileCreateNextBlock` between taking blocks and the data write, in state `s'` with handle `h'`: the allocator's scan
    found what the site reached asked for (`room`: one block, or two where a new extension block is due), the device has
    seen at most one write since `s`, of an extension block, and the handle designates the buffer `h` designated -/
structure NextAlloc (c : Cfg) (h : FileH) (s : St) (h' : FileH) (s' : St) : Prop where
  room : ¬ VolFull c h.vol s.mem ∨ ¬ VolFull2 c h.vol s.mem
  wrote : ∃ Wext, Wrote s s' Wext ∧ ExtWr c h.vol Wext
  buf : SameBuf h h'

/-- **how a call of `adfFileCreateNextBlock` went**, for every handle, disk content, volume state and fault schedule -/
inductive NextBlockRun (c : Cfg) (h : FileH) (s : St) : RC × FileH → St → Prop
  /-- it took no block: the extension blocks could not be read, or the allocator's scan came up short at the site reached
      (data block listed in the header; extension block and data block together; data block listed in an extension
      block).  Only reads happened; the handle keeps its header copy, position and data buffer -/
  | refused {rc : RC} {h' : FileH} {s' : St} (failed : rc ≠ rcOK) (reads : Reads s s') (kept : KeptW h h') :
      NextBlockRun c h s (rc, h') s'
  /-- the scan found what the site asked for, and the call came to its data write in state `s1` (`alloc`: at most the
      last extension block rewritten where it says it lives, a new one being linked behind it); then at most the finished
      data buffer went to the block the handle designated — no header, no bitmap, no block of another file.  Of the result
      `r` it says nothing: its users need the writes only -/
  | took {r : RC × FileH} {h1 : FileH} {s1 s' : St} {Wdat : List Ev} (alloc : NextAlloc c h s h1 s1)
      (wrote : Wrote s1 s' Wdat) (dat : DataWr c h Wdat) : NextBlockRun c h s r s'

theorem fileCreateNextBlock_run (c : Cfg) (h : FileH) (s : St) :
    Post AnyFault c (fileCreateNextBlock h) s (NextBlockRun c h s) := by
  unfold fileCreateNextBlock
  apply Post.bind; apply Post.getVolCfg
  apply Post.bind
  -- 1. a block is allocated and entered into the header or the current extension block
  refine Post.mono (Q := fun r s1 => (r.1 ≠ rcOK ∧ Reads s s1 ∧ KeptW h r.2.1) ∨ NextAlloc c h s r.2.1 s1) ?_ ?_
  · refine Post.ite (fun _ => ?_) (fun _ => ?_)
    -- first site: a data block listed in the header
    · apply Post.bind; apply Post.get1FreeBlock
      · exact fun _ => Post.pure (.inl ⟨rcVolFull_ne_ok, .refl s, .refl h⟩)
      · exact fun b m hb _ => Post.pure (.inr ⟨.inl fun hf => hf (congrArg List.length hb),
          ⟨[], rfl, .inl rfl⟩, rfl, rfl, rfl⟩)
    -- the extension-block cursor is brought up to date: reads only
    apply Post.bind
    refine Post.mono (Q := fun (r : RC × FileH) s' => Reads s s' ∧ KeptW h r.2) ?_ ?_
    · refine Post.ite (fun _ => ?_) (fun _ => Post.pure ⟨.refl s, .refl h⟩)
      refine Post.ite (fun _ => Post.pure ⟨.refl s, .refl h⟩) (fun _ => ?_)
      apply Post.bind
      refine (Post.reads (fileReadExtBlockN_reads h _)).mono ?_
      rintro ⟨rc, last⟩ s1 r1
      have k0 := KeptW.refl h
      cases last with
      | none =>
        exact Post.ite (fun _ => Post.pure ⟨r1, iteInduction (fun _ => k0) fun _ => k0⟩)
          (fun _ => Post.pure ⟨r1, (iteInduction (fun _ => k0.set) fun _ => k0).set⟩)
      | some b =>
        exact Post.ite (fun _ => Post.pure ⟨r1, iteInduction (fun _ => k0.set) fun _ => k0⟩)
          (fun _ => Post.pure ⟨r1, k0.set⟩)
    rintro ⟨rc, h1⟩ s1 ⟨r1, k1⟩
    refine Post.ite (fun hrc => Post.pure (.inl ⟨hrc, r1, k1⟩)) (fun _ => ?_)
    -- second site: every 72 blocks a new extension block, taken together with the data block and linked behind the
    -- current one; `pre` is that data block
    apply Post.bind
    refine Post.mono (Q := fun r s2 => (Reads s s2 ∧ KeptW h r.2.1 ∧ r.2.2 = none) ∨ NextAlloc c h s r.2.1 s2) ?_ ?_
    · refine Post.ite (fun _ => ?_) (fun _ => Post.pure (.inl ⟨r1, k1, rfl⟩))
      apply Post.bind
      refine Post.getFreeBlocks (fun _ => Post.pure (.inl ⟨r1, k1, rfl⟩)) fun hlen m _ => ?_
      have hf2 : ¬ VolFull2 c h.vol s.mem := fun hf => hf (by rw [← k1.sameBuf.vol, ← r1.mem]; exact hlen)
      have q2 := r1.toNoWrite.setMem m
      split
      · extract_lets hx
        have kx : SameBuf h hx := iteInduction (fun _ => k1.sameBuf.set) fun _ => k1.sameBuf
        apply Post.bind
        refine Post.mono (Q := fun r s3 => NextAlloc c h s r s3) ?_ fun _ _ a => Post.pure (.inr ⟨a.room, a.wrote, a.buf.set⟩)
        refine Post.ite (fun _ => ?_) (fun _ => Post.pure ⟨.inr hf2, ⟨[], q2.wrote, .inl rfl⟩, kx⟩)
        split
        · exact Post.fault trivial
        · apply Post.bind; apply Post.writeFileExtBlock
          intro rcw s3 w
          obtain ⟨W, hW, h1⟩ := w.atMostOne
          exact Post.pure ⟨.inr hf2, ⟨W, q2.then_wrote hW, h1.imp id fun ⟨st, e⟩ => ⟨_, st, kx.vol ▸ e⟩⟩, kx.set⟩
      · exact Post.pure (.inr ⟨.inr hf2, ⟨[], q2.wrote, .inl rfl⟩, k1.sameBuf⟩)
    rintro ⟨rc2, h2, pre⟩ s2 a2
    refine Post.ite (fun hrc2 => Post.pure (a2.imp (fun ⟨r, k, _⟩ => ⟨hrc2, r, k⟩) id)) (fun _ => ?_)
    -- third site: a data block listed in an extension block, unless it came with the extension block
    apply Post.bind
    refine Post.mono (Q := fun nS s3 => (nS = none ∧ Reads s s3 ∧ KeptW h h2) ∨ NextAlloc c h s h2 s3) ?_ ?_
    · rcases a2 with ⟨r2, k2, rfl⟩ | a2
      · apply Post.get1FreeBlock
        · exact fun _ => .inl ⟨rfl, r2, k2⟩
        · exact fun b m hb _ => .inr ⟨.inl fun hf => hf (by rw [← k2.sameBuf.vol, ← r2.mem]; exact congrArg List.length hb),
            ⟨[], r2.wrote, .inl rfl⟩, k2.sameBuf⟩
      · cases pre with
        | some x => exact Post.pure (.inr a2)
        | none =>
          exact (Post.noWrite (get1FreeBlock_noWrite _)).mono fun _ _ q =>
            .inr ⟨a2.room, a2.wrote.imp fun _ hW => ⟨hW.1.noWrite q, hW.2⟩, a2.buf⟩
    rintro nS s3 (⟨rfl, r3, k3⟩ | a3)
    · exact Post.pure (.inl ⟨rcVolFull_ne_ok, r3, k3⟩)
    cases nS with
    | none => exact Post.pure (.inr a3)
    | some nSect =>
      cases h2.curExt with
      | none => exact Post.fault trivial
      | some ce =>
        refine Post.ite (fun _ => ?_) (fun _ => Post.pure (.inr ⟨a3.room, a3.wrote, a3.buf.set⟩))
        apply Post.bind; exact Post.fault trivial
  rintro ⟨rc, h', nSect⟩ s1 (⟨hrc, r1, k1⟩ | a)
  · exact Post.ite (fun _ => Post.pure (.refused hrc r1 k1)) (fun hn => absurd hrc hn)
  refine Post.ite (fun _ => Post.pure (.took a (.refl s1) (.inl rfl))) (fun _ => ?_)
  -- 2. the finished buffer goes to the block the handle designated; on FFS volumes as it is
  apply Post.bind
  refine Post.mono (Q := fun _ s2 => ∃ Wdat, Wrote s1 s2 Wdat ∧ DataWr c h Wdat) ?_
    fun _ _ ⟨_, hW2, hdat⟩ => Post.pure (.took a hW2 hdat)
  have one : ∀ {d : Bytes}, (isOFSvol (c.vol h.vol) = false → d = h.curData) →
      Post AnyFault c (writeDataBlock h'.vol h'.curDataPtr d) s1 (fun _ s2 => ∃ Wdat, Wrote s1 s2 Wdat ∧ DataWr c h Wdat) :=
    fun hd => Post.writeDataBlock fun _ _ W hW h1 =>
      ⟨W, hW, h1.imp id fun ⟨st, e⟩ => ⟨_, st, by rw [← a.buf.vol, ← a.buf.curDataPtr]; exact e, hd⟩⟩
  refine Post.ite (fun hofs => ?_) (fun hofs => ?_)
  · apply Post.bind
    refine Post.ite (fun _ => ?_) (fun _ => Post.pure (Post.pure ⟨[], .refl s1, .inl rfl⟩))
    apply Post.bind
    exact (one fun hf => nomatch hofs.symm.trans hf).mono fun _ _ hq => Post.pure (Post.pure hq)
  · refine Post.ite (fun _ => ?_) (fun _ => Post.pure ⟨[], .refl s1, .inl rfl⟩)
    apply Post.bind
    exact (one fun _ => a.buf.curData).mono fun _ _ hq => Post.pure hq

/-- the handle after `n = buf.length` bytes were stored inside the current block -/
def wroteInBlock (doff : Nat) (h : FileH) (buf : Bytes) : FileH :=
  ({ h with curData := putAt (padTo h.curData 512) (doff + h.posInDataBlk) buf, pos := h.pos + buf.length,
            posInDataBlk := h.posInDataBlk + buf.length, changed := true } : FileH).setByteSize (max h.byteSize (h.pos + buf.length))

theorem fileWriteLoop_nil (dbs doff fuel : Nat) (h : FileH) (written : Nat) :
    fileWriteLoop dbs doff fuel h [] written = pure (written, h) := by
  cases fuel with
  | zero => rfl
  | succ fuel => rfl

theorem wroteInBlock_pos (doff : Nat) (h : FileH) (buf : Bytes) :
    (wroteInBlock doff h buf).pos = h.pos + buf.length ∧ (wroteInBlock doff h buf).posInDataBlk = h.posInDataBlk + buf.length ∧
    (wroteInBlock doff h buf).curDataPtr = h.curDataPtr ∧ (wroteInBlock doff h buf).nDataBlock = h.nDataBlock ∧
    (wroteInBlock doff h buf).changed = true := ⟨rfl, rfl, rfl, rfl, rfl⟩

end Adf
