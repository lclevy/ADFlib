/-
  Seek and read on a handle that is not open for writing (C10, C19): whatever the disk contains and whichever accesses
  fail, `adfFileSeek` and `adfFileRead` only read; they never leave — or deliver bytes from — a buffer that is not the
  disk content of the block the handle designates (the fields `buf` of `SeekPost` and `ReadPost`: C19); and they never
  reach for a missing extension buffer or a slot outside it (the fields `ext`, with the fault set `NoOob`: C10 — the model
  faults `oob adfFileReadNextBlock.*` / `oob adfFileSeekExt.currentExt`, a NULL dereference / an out-of-range index in C,
  cannot fire).  The extension cursor is usable (`ExtOK`) after a successful seek and all through the read loop; between
  calls a handle may also hold no block (`ExtW`), and then the next read seeks first.  The four mutually recursive
  functions of `adfFileSeek` are one conjunction, `seek_family`, proved by induction on the fuel they share.
-/
import AdfProofs.FileReadLemmas
import AdfProofs.Effects
namespace Adf

def BufPost (c : Cfg) (disk : Std.HashMap Nat Bytes) (h : FileH) (r : RC × FileH) : Prop :=
  Weak c disk r.2 ∧ (r.1 = rcOK → Loaded c disk r.2 ∨ h.byteSize = 0)

def ExtPost (c : Cfg) (r : RC × FileH) : Prop := ExtW c r.2 ∧ (r.1 = rcOK → ExtOK c r.2)

/-- a seek that repositioned the cursor of `h`: buffer (`BufPost`) and extension cursor (`ExtPost`) are as a seek leaves
    them, whatever they were before -/
structure Sought (c : Cfg) (disk : Std.HashMap Nat Bytes) (h : FileH) (s : St) (r : RC × FileH) (s' : St) : Prop where
  reads : Reads s s'
  same : Same h r.2
  buf : BufPost c disk h r
  ext : ExtPost c r

/-- what every seek guarantees for a handle that is not open for writing; some paths leave buffer and cursor as they
    were, so each is as good as it was before -/
structure SeekPost (c : Cfg) (disk : Std.HashMap Nat Bytes) (h : FileH) (s : St) (r : RC × FileH) (s' : St) : Prop where
  reads : Reads s s'
  same : Same h r.2
  buf : BufValid c disk h → BufPost c disk h r
  ext : ExtW c h → ExtPost c r

section
variable {c : Cfg} {disk : Std.HashMap Nat Bytes} {h h1 : FileH} {s s1 s' : St} {r : RC × FileH}

theorem Sought.loaded (hr : Reads s s') (hs : Same h r.2) (hl : Loaded c disk r.2) (hx : ExtOK c r.2) :
    Sought c disk h s r s' :=
  ⟨hr, hs, ⟨.inl fun _ => hl, fun _ => .inl hl⟩, ⟨.inr hx, fun _ => hx⟩⟩

theorem Sought.dropped (hr : Reads s s') (hs : Same h r.2) (hne : r.1 ≠ rcOK) (h0 : r.2.curDataPtr = 0) :
    Sought c disk h s r s' :=
  ⟨hr, hs, ⟨.inl (.of_zero h0), fun hk => absurd hk hne⟩, ⟨.inl h0, fun hk => absurd hk hne⟩⟩

theorem Sought.after (x : Sought c disk h1 s1 r s') (hr : Reads s s1) (hs : Same h h1) : Sought c disk h s r s' :=
  ⟨hr.trans x.reads, hs.trans x.same, ⟨x.buf.1, fun hk => (x.buf.2 hk).imp_right fun hz => hs.byteSize ▸ hz⟩, x.ext⟩

theorem Sought.post (x : Sought c disk h s r s') : SeekPost c disk h s r s' :=
  ⟨x.reads, x.same, fun _ => x.buf, fun _ => x.ext⟩

theorem SeekPost.stay (p q : Nat) (hne : h.curDataPtr ≠ 0) :
    SeekPost c disk h s (rcOK, { h with pos := p, posInDataBlk := q }) s :=
  ⟨.refl s, ⟨rfl, rfl, rfl, rfl⟩, fun hb => ⟨.inl hb, fun _ => .inl (hb hne)⟩, fun hx => ⟨hx, fun _ => hx.resolve_left hne⟩⟩

end

/-- the buffer is valid and the cursor usable also when `adfFileSeekStart_` fails -/
theorem fileSeekStart_spec (c : Cfg) (disk : Std.HashMap Nat Bytes) (h : FileH) (s : St) (hd : s.disk = disk) :
    Post NoOob c (fileSeekStart h) s (fun r s' =>
      Sought c disk h s r s' ∧ BufValid c disk r.2 ∧ ExtOK c r.2) := by
  unfold fileSeekStart
  refine Post.ite (fun hz => ?_) fun _ => ?_
  · exact Post.pure ⟨⟨.refl s, ⟨rfl, rfl, rfl, rfl⟩, ⟨.inl (.of_zero rfl), fun _ => .inr hz⟩,
      ⟨.inl rfl, fun _ => .of_le (Nat.zero_le _)⟩⟩, .of_zero rfl, .of_le (Nat.zero_le _)⟩
  apply Post.bind
  refine ((fileReadNextBlock_spec c _ s).noOob (.of_le (Nat.zero_le _))).mono ?_
  rintro ⟨rc, h'⟩ s' n
  have hx := n.ext (.of_le (Nat.zero_le _))
  refine Post.ite (fun hrc => ?_) fun hrc => ?_
  · exact Post.pure ⟨.dropped n.reads n.kept.same hrc rfl, .of_zero rfl, hx⟩
  · have hl := n.loaded hd (Classical.not_not.mp hrc)
    exact Post.pure ⟨.loaded n.reads n.kept.same hl hx, fun _ => hl, hx⟩

theorem pos2DataBlock_cases (p bs : Nat) :
    ((pos2DataBlock p bs).extBlock = none ∧ (pos2DataBlock p bs).curDataN < 72) ∨
    ∃ eb, (pos2DataBlock p bs).extBlock = some eb ∧ (pos2DataBlock p bs).posInExtBlk ≤ 71 := by
  unfold pos2DataBlock
  by_cases h : p / bs < MAX_DATABLK
  · rw [if_pos h]; exact .inl ⟨rfl, h⟩
  · rw [if_neg h]; exact .inr ⟨_, rfl, Nat.le_of_lt_succ (Nat.mod_lt _ (by decide))⟩

theorem fileSeekExtAt_spec (c : Cfg) (disk : Std.HashMap Nat Bytes) (h : FileH) (p : Nat) (s : St) (hd : s.disk = disk) :
    Post NoOob c (fileSeekExtAt h p) s (Sought c disk h s) := by
  unfold fileSeekExtAt
  apply Post.bind; apply Post.getVolCfg
  apply Post.bind
  -- the block number is in the handle, its index either in the header's range or a slot of a loaded extension block
  refine Post.mono (Q := fun (rc, h1) s1 => Reads s s1 ∧ Same h h1 ∧ (rc ≠ rcOK → h1.curDataPtr = 0) ∧
      (rc = rcOK → ExtOK c h1 ∧ ExtOK c { h1 with nDataBlock := h1.nDataBlock + 1 })) ?_ ?_
  · rcases pos2DataBlock_cases p (c.vol h.vol).datablockSize with ⟨hn, hlt⟩ | ⟨eb, hext, hle⟩
    · rw [hn]
      exact Post.pure ⟨.refl s, ⟨rfl, rfl, rfl, rfl⟩, fun hne => absurd rfl hne,
        fun _ => ⟨.of_le (Nat.le_of_lt hlt), .of_le hlt⟩⟩
    · rw [hext]
      apply Post.bind
      refine (Post.reads (fileReadExtBlockN_reads _ eb)).mono ?_
      rintro ⟨rc, last⟩ s1 hr
      -- in all four cases the two `match`es reduce, and a successful lookup leaves `curExt = some _`
      cases last <;> cases h.curExt <;>
        exact Post.ite
          (fun _ => Post.pure ⟨hr, ⟨rfl, rfl, rfl, rfl⟩, fun _ => rfl, fun hk => absurd hk rcError_ne_ok⟩)
          (fun _ => Post.pure ⟨hr, ⟨rfl, rfl, rfl, rfl⟩, fun hne => absurd rfl hne,
            fun _ => ⟨.of_some rfl (Nat.succ_le_succ hle), .of_some rfl (Nat.succ_le_succ hle)⟩⟩)
  · rintro ⟨rc, h1⟩ s1 ⟨hr, hs, hz, hx⟩
    refine Post.ite (fun hrc => Post.pure (.dropped hr hs hrc (hz hrc))) fun hrc => ?_
    obtain ⟨hx1, hx2⟩ := hx (Classical.not_not.mp hrc)
    refine Post.ite (fun hlt => ?_) fun hlt => ?_
    · exact Post.pure ⟨hr, hs, ⟨.inr hlt, fun hk => absurd hk rcError_ne_ok⟩, ⟨.inr hx1, fun _ => hx1⟩⟩
    apply Post.bind; apply Post.readDataBlock
    intro rc2 data s2 r2 hdata
    refine Post.ite (fun hrc2 => Post.pure (.dropped (hr.trans r2) hs hrc2 rfl)) fun hrc2 => ?_
    refine Post.pure (.loaded (hr.trans r2) hs ?_ hx2)
    exact .of_sector (hr.disk.trans hd) (hdata (Classical.not_not.mp hrc2)) (eq_false_of_ne_true hlt)

theorem fileSeekOFSLoop_spec (c : Cfg) (disk : Std.HashMap Nat Bytes) (dbs p : Nat) :
    ∀ (fuel : Nat) (h : FileH) (offset : Nat) (s : St), s.disk = disk → Loaded c disk h → ExtOK c h →
    Post NoOob c (fileSeekOFSLoop dbs p fuel h offset) s (Sought c disk h s) := by
  intro fuel
  induction fuel with
  | zero => intro h off s _ hl hx; exact Post.pure (.loaded (.refl s) (.refl h) hl hx)
  | succ fuel ih =>
    intro h off s hd hl hx
    unfold fileSeekOFSLoop
    refine Post.ite (fun _ => ?_) fun _ => Post.pure (.loaded (.refl s) (.refl h) hl hx)
    refine Post.ite (fun _ => ?_) fun _ => ?_
    · apply Post.bind
      refine Post.mono ((fileReadNextBlock_spec c _ s).noOob hx) ?_
      rintro ⟨rc, h'⟩ s' n
      have hs : Same h h' := n.kept.same
      refine Post.ite (fun hrc => Post.pure (.dropped n.reads hs rcError_ne_ok rfl)) fun hrc => ?_
      exact Post.mono (ih _ _ s' (n.reads.disk.trans hd) (n.loaded hd (Classical.not_not.mp hrc)) (n.ext hx))
        fun _ _ x => x.after n.reads hs
    · exact Post.mono (ih _ _ s hd hl hx) fun _ _ x => x.after (.refl s) ⟨rfl, rfl, rfl, rfl⟩

/-- a handle that is not open for writing is never flushed -/
theorem not_dirty {h : FileH} (hw : h.modeWrite = false) : ¬(h.modeWrite = true ∧ h.changed = true) :=
  fun hc => Bool.noConfusion (hw ▸ hc.1)

/-- the four mutually recursive functions of `adfFileSeek`: no path through them — the fallbacks included — raises an
    out-of-bounds fault, whatever the handle -/
theorem seek_family (c : Cfg) (disk : Std.HashMap Nat Bytes) : ∀ fuel : Nat,
    (∀ h pos s, h.modeWrite = false → s.disk = disk → Post NoOob c (fileSeek fuel h pos) s (SeekPost c disk h s)) ∧
    (∀ h s, h.modeWrite = false → s.disk = disk → Post NoOob c (fileSeekEOF fuel h) s (SeekPost c disk h s)) ∧
    (∀ h pos s, h.modeWrite = false → s.disk = disk → Post NoOob c (fileSeekExt fuel h pos) s (SeekPost c disk h s)) ∧
    (∀ h pos s, h.modeWrite = false → s.disk = disk → Post NoOob c (fileSeekOFS fuel h pos) s (Sought c disk h s)) := by
  intro fuel
  induction fuel with
  | zero => exact ⟨fun _ _ _ _ _ => Post.fault rfl, fun _ _ _ _ => Post.fault rfl, fun _ _ _ _ _ => Post.fault rfl,
      fun _ _ _ _ _ => Post.fault rfl⟩
  | succ fuel ih =>
    -- every call from one of the four into another goes from `fuel + 1` to `fuel`: `fileSeek` calls Ext and OFS,
    -- `fileSeekEOF` calls Seek, `fileSeekExt` and `fileSeekOFS` call EOF.  So the conjunction goes through by plain
    -- induction on the fuel; at 0 all four raise the fuel fault, which is not out-of-bounds
    obtain ⟨ihSeek, ihEOF, ihExt, ihOFS⟩ := ih
    refine ⟨fun h pos s hw hd => ?_, fun h s hw hd => ?_, fun h pos s hw hd => ?_, fun h pos s hw hd => ?_⟩
    · unfold fileSeek
      apply Post.bind; apply Post.getVolCfg
      refine Post.ite (fun h1 => Post.pure (.stay h.pos h.posInDataBlk h1.2)) fun _ => ?_
      refine Post.ite (fun h2 => Post.pure (.stay _ _ h2.1)) fun _ => ?_
      apply Post.bind
      refine Post.ite (fun hc => absurd hc (not_dirty hw)) fun _ => Post.pure ?_
      refine Post.ite (fun _ => (fileSeekStart_spec c disk h s hd).mono fun _ _ x => x.1.post) fun _ => ?_
      apply Post.bind
      refine (ihExt h pos s hw hd).mono ?_
      rintro ⟨st, h1⟩ s1 x
      refine Post.ite (fun _ => ?_) fun _ => Post.pure x
      exact (ihOFS h1 pos s1 (x.same.1.trans hw) (x.reads.disk.trans hd)).mono fun _ _ y => (y.after x.reads x.same).post
    · unfold fileSeekEOF
      refine Post.ite (fun _ => (fileSeekStart_spec c disk h s hd).mono fun _ _ x => x.1.post) fun _ => ?_
      apply Post.bind; apply Post.getVolCfg
      apply Post.bind
      refine (ihSeek h _ s hw hd).mono ?_
      rintro ⟨rc, h1⟩ s1 x
      refine Post.ite (fun _ => Post.pure x) fun hrc => ?_
      rw [Classical.not_not.mp hrc] at x
      -- only position fields are set, which none of the four facts mentions
      exact Post.pure ⟨x.reads, x.same, x.buf, x.ext⟩
    · unfold fileSeekExt
      refine Post.ite (fun _ => ?_) fun _ => ?_
      · exact Post.mono (ihEOF _ s hw hd) fun _ _ x => ⟨x.reads, x.same, x.buf, x.ext⟩
      · exact Post.mono (fileSeekExtAt_spec c disk _ _ s hd) fun _ _ x => ⟨x.reads, x.same, fun _ => x.buf, fun _ => x.ext⟩
    · unfold fileSeekOFS
      apply Post.bind; apply Post.getVolCfg
      apply Post.bind
      refine (fileSeekStart_spec c disk h s hd).mono ?_
      rintro ⟨rc, h1⟩ s1 ⟨x, hb, hx⟩
      refine Post.ite (fun _ => Post.pure x) fun hrc => ?_
      have hw1 : h1.modeWrite = false := x.same.1.trans hw
      have hd1 : s1.disk = disk := x.reads.disk.trans hd
      refine Post.ite (fun _ => ?_) fun hne => ?_
      · refine Post.mono (ihEOF _ s1 hw1 hd1) fun _ _ y => ?_
        exact .after ⟨y.reads, y.same, y.buf hb, y.ext (.inr hx)⟩ x.reads x.same
      · -- the file is not empty here, so the start block is loaded
        have hl : Loaded c disk h1 := (x.buf.2 (Classical.not_not.mp hrc)).resolve_right fun hz =>
          have hz1 : h1.byteSize = 0 := x.same.byteSize.trans hz
          hne (show min pos h1.byteSize = h1.byteSize by rw [hz1]; exact Nat.min_zero _)
        exact Post.mono (fileSeekOFSLoop_spec c disk _ _ _ _ _ s1 hd1 hl hx) fun _ _ y => y.after x.reads x.same

/-- bytes that come from data blocks of volume `v` as they are on the disk: a concatenation of slices of sector images -/
inductive FromDisk (c : Cfg) (disk : Std.HashMap Nat Bytes) (v doff : Nat) : Bytes → Prop
  | nil : FromDisk c disk v doff []
  | chunk (blk off len : Nat) (rest : Bytes) : FromDisk c disk v doff rest →
      FromDisk c disk v doff (slice (padTo ((disk.getD (vsect c v blk) zeroBlock).take 512) 512) (doff + off) len ++ rest)

/-- the loop of `adfFileRead` on a handle not open for writing -/
structure ReadLoop (c : Cfg) (disk : Std.HashMap Nat Bytes) (v doff : Nat) (h : FileH) (remaining : Nat) (acc : Bytes)
    (s : St) (r : Bytes × FileH) (s' : St) : Prop where
  reads : Reads s s'
  same : Same h r.2
  pos : r.2.pos ≤ h.pos + remaining
  out : ∃ d, r.1 = acc ++ d ∧ d.length ≤ remaining ∧ (Loaded c disk h → FromDisk c disk v doff d)
  buf : Loaded c disk h → BufValid c disk r.2
  ext : ExtOK c h → ExtOK c r.2

section
variable {c : Cfg} {disk : Std.HashMap Nat Bytes} {v doff size rem : Nat} {h h1 : FileH} {acc : Bytes} {s s1 s2 : St}
  {r : Bytes × FileH}

theorem ReadLoop.done (hr : Reads s s1) (hs : Same h h1) (hp : h1.pos = h.pos) (hb : Loaded c disk h → BufValid c disk h1)
    (hx : ExtOK c h → ExtOK c h1) : ReadLoop c disk v doff h rem acc s (acc, h1) s1 :=
  ⟨hr, hs, hp ▸ Nat.le_add_right .., ⟨[], (List.append_nil _).symm, Nat.zero_le _, fun _ => .nil⟩, hb, hx⟩

/-- one round of the loop: `size` bytes of the buffer of `h1` are delivered, then the loop goes on -/
theorem ReadLoop.step
    (x : ReadLoop c disk v doff { h1 with pos := h1.pos + size, posInDataBlk := h1.posInDataBlk + size } (rem - size)
      (acc ++ slice h1.curData (doff + h1.posInDataBlk) size) s1 r s2)
    (hsize : size ≤ rem) (hr : Reads s s1) (hs : Same h h1) (hv : h1.vol = v) (hp : h1.pos = h.pos)
    (hx : ExtOK c h → ExtOK c h1) (hl : Loaded c disk h → Loaded c disk h1) : ReadLoop c disk v doff h rem acc s r s2 := by
  obtain ⟨d, hout, hlen, hfd⟩ := x.out
  have hrem : size + (rem - size) = rem := Nat.add_sub_cancel' hsize
  refine ⟨hr.trans x.reads, hs.trans x.same, ?_,
    ⟨slice h1.curData (doff + h1.posInDataBlk) size ++ d, by rw [hout, List.append_assoc], ?_, fun hl0 => ?_⟩,
    fun hl0 => x.buf (hl hl0), fun hx0 => x.ext (hx hx0)⟩
  · rw [← hp, ← hrem, ← Nat.add_assoc]; exact x.pos
  · rw [List.length_append, ← hrem]; exact Nat.add_le_add (slice_length_le ..) hlen
  · have hl1 := hl hl0
    rw [hl1.1, hv]
    exact .chunk _ _ _ _ (hfd hl1)

end

theorem fileReadLoop_spec (c : Cfg) (disk : Std.HashMap Nat Bytes) (v dbs doff : Nat) :
    ∀ (fuel : Nat) (h : FileH) (remaining : Nat) (acc : Bytes) (s : St), h.modeWrite = false → h.vol = v →
    s.disk = disk → Post (NoOobIf (ExtOK c h)) c (fileReadLoop dbs doff fuel h remaining acc) s
      (ReadLoop c disk v doff h remaining acc s) := by
  intro fuel
  induction fuel with
  | zero =>
    intro h rem acc s _ _ _
    exact Post.pure (.done (.refl s) (.refl h) rfl (fun hl _ => hl) id)
  | succ fuel ih =>
    intro h rem acc s hw hv hd
    unfold fileReadLoop
    refine Post.ite (fun _ => Post.pure (.done (.refl s) (.refl h) rfl (fun hl _ => hl) id)) fun _ => ?_
    apply Post.bind
    -- the block to read from is in the buffer, or the next block could not be read and none is held
    refine Post.mono (Q := fun (ok, h1) s1 => Reads s s1 ∧ Same h h1 ∧ h1.pos = h.pos ∧ (ExtOK c h → ExtOK c h1) ∧
        (ok = true → Loaded c disk h → Loaded c disk h1) ∧ (ok = false → h1.curDataPtr = 0)) ?_ ?_
    · refine Post.ite (fun _ => ?_) fun _ => Post.pure ⟨.refl s, .refl h, rfl, id, fun _ => id, fun hf => Bool.noConfusion hf⟩
      apply Post.bind
      refine Post.ite (fun hc => absurd hc (not_dirty hw)) fun _ => Post.pure ?_
      apply Post.bind
      refine (fileReadNextBlock_spec c h s).mono ?_
      rintro ⟨rc, h'⟩ s' n
      refine Post.ite (fun hrc => ?_) fun hrc => ?_
      · exact Post.pure ⟨n.reads, n.kept.same, (n.fail hrc).2.2.2, n.ext, fun hf => Bool.noConfusion hf, fun _ => rfl⟩
      · have hk : rc = rcOK := Classical.not_not.mp hrc
        exact Post.pure ⟨n.reads, n.kept.same, (n.ok hk).2.1, n.ext, fun _ _ => n.loaded hd hk, fun hf => Bool.noConfusion hf⟩
    · rintro ⟨ok, h1⟩ s1 ⟨hr, hs, hp, hx, hT, hF⟩
      cases ok with
      | false => exact Post.ite (fun _ => Post.pure (.done hr hs hp (fun _ => .of_zero (hF rfl)) hx)) fun hc => absurd rfl hc
      | true =>
        refine Post.ite (fun hc => Bool.noConfusion hc) fun _ => ?_
        have hv1 : h1.vol = v := hs.2.1.trans hv
        -- the rest of the loop is safe under `ExtOK c h1`, which `hx` gives from `ExtOK c h`
        exact Post.mono (Post.weaken (ih _ _ _ s1 (hs.1.trans hw) hv1 (hr.disk.trans hd)) fun _ hf hx0 => hf (hx hx0))
          fun _ _ x => x.step (Nat.min_le_left ..) hr hs hv1 hp hx (hT rfl)

/-- `adfFileRead` on a handle not open for writing: `buf` is what C19 says of it, `ext` (with the fault set of
    `fileRead_spec`) what C10 says -/
structure ReadPost (c : Cfg) (disk : Std.HashMap Nat Bytes) (h : FileH) (s : St) (r : Bytes × FileH) (s' : St) : Prop where
  reads : Reads s s'
  same : Same h r.2
  buf : BufValid c disk h → Weak c disk r.2 ∧ FromDisk c disk h.vol (dataOff (c.vol h.vol)) r.1
  ext : ExtW c h → ExtW c r.2

theorem fileRead_spec (c : Cfg) (disk : Std.HashMap Nat Bytes) (h : FileH) (n : Nat) (s : St) (hw : h.modeWrite = false)
    (hd : s.disk = disk) : Post (NoOobIf (ExtW c h)) c (fileRead h n) s (ReadPost c disk h s) := by
  unfold fileRead
  refine Post.ite (fun _ => Post.pure ⟨.refl s, .refl h, fun hb => ⟨.inl hb, .nil⟩, id⟩) fun hcond => ?_
  have hsz : h.byteSize ≠ 0 := fun hz => hcond (.inr (.inr (.inl hz)))
  apply Post.bind; apply Post.getVolCfg
  apply Post.bind
  -- a block is in the handle already, or a seek to the current position fetches it
  refine Post.mono (Q := fun (ok, h1) s1 => ∃ rc, (ok = true → rc = rcOK) ∧ SeekPost c disk h s (rc, h1) s1) ?_ ?_
  · refine Post.ite (fun _ => ?_) fun hne => Post.pure ⟨rcOK, fun _ => rfl, .stay h.pos h.posInDataBlk hne⟩
    apply Post.bind
    refine ((seek_family c disk SEEK_FUEL).1 h h.pos s hw hd).noOobIf.mono ?_
    rintro ⟨rc, h1⟩ s1 x
    exact Post.pure ⟨rc, of_decide_eq_true, x⟩
  · rintro ⟨ok, h1⟩ s1 ⟨rc, hk, x⟩
    cases ok with
    | false =>
      exact Post.ite (fun _ => Post.pure ⟨x.reads, x.same, fun hb => ⟨(x.buf hb).1, .nil⟩, fun hx => (x.ext hx).1⟩)
        fun hc => absurd rfl hc
    | true =>
      refine Post.ite (fun hc => Bool.noConfusion hc) fun _ => ?_
      refine Post.mono (Post.weaken (fileReadLoop_spec c disk h.vol _ _ _ h1 _ [] s1 (x.same.1.trans hw) x.same.2.1
        (x.reads.disk.trans hd)) fun _ hf hx => hf ((x.ext hx).2 (hk rfl))) ?_
      rintro r s2 ⟨hr2, hs2, _, ⟨d, hout, _, hfd⟩, hb2, hx2⟩
      refine ⟨x.reads.trans hr2, x.same.trans hs2, fun hb => ?_, fun hx => .inr (hx2 ((x.ext hx).2 (hk rfl)))⟩
      have hl := ((x.buf hb).2 (hk rfl)).resolve_right hsz
      rw [hout, List.nil_append]
      exact ⟨.inl (hb2 hl), hfd hl⟩

end Adf
