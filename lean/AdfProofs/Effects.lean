/-
  Which primitives the library's functions use, one lemma per function: `Uses Prim.reads` for a walk that only reads,
  `Uses Prim.noWrite` for a function that also assigns the library's memory (the bitmap) but never writes to the device.
  Each is read off the definition by `simp` with the `uses_*` rules, a recursive walk by induction on its fuel;
  `Post.reads` / `Post.noWrite` turn it into "this call left the disk, the write log, (the memory) alone".
  What calls the allocator is stated for `AnyFault` (its table index can raise `oob`), the rest for every fault set.
-/
import AdfProofs.BlockIO
import AdfModel.Salv
import AdfModel.File
namespace Adf

attribute [local simp] Prim.reads Prim.noWrite Prim.noSetMem AnyFault

section
variable {F : Fault → Prop}

theorem nameToEntryBlkLoop_reads (v : Nat) (intl : Bool) (name : Bytes) :
    ∀ fuel n u, (nameToEntryBlkLoop v intl name fuel n u).Uses Prim.reads F := by
  intro fuel
  induction fuel with
  | zero => intro n u; simp [nameToEntryBlkLoop]
  | succ fuel ih => intro n u; simp [nameToEntryBlkLoop, ih]

theorem nameToEntryBlk_reads (v : Nat) (ht : Blk) (name : Bytes) : (nameToEntryBlk v ht name).Uses Prim.reads F := by
  simp [nameToEntryBlk, nameToEntryBlkLoop_reads]

theorem createEntryWalk_reads (v : Nat) (intl : Bool) (name : Bytes) :
    ∀ fuel n, (createEntryWalk v intl name fuel n).Uses Prim.reads F := by
  intro fuel
  induction fuel with
  | zero => intro n; simp [createEntryWalk]
  | succ fuel ih => intro n; simp [createEntryWalk, ih]

theorem renameDupWalk_reads (v : Nat) (intl : Bool) (nm : Bytes) (self : Nat) :
    ∀ fuel n, (renameDupWalk v intl nm self fuel n).Uses Prim.reads F := by
  intro fuel
  induction fuel with
  | zero => intro n; simp [renameDupWalk]
  | succ fuel ih => intro n; simp [renameDupWalk, ih]

theorem renameUpWalk_reads (v root self : Nat) : ∀ fuel n, (renameUpWalk v root self fuel n).Uses Prim.reads F := by
  intro fuel
  induction fuel with
  | zero => intro n; simp [renameUpWalk]
  | succ fuel ih => intro n; simp [renameUpWalk, ih]

theorem getFileBlocksExt_reads (v nbData nbExt : Nat) :
    ∀ fuel n data exts, (getFileBlocksExt v nbData nbExt fuel n data exts).Uses Prim.reads F := by
  intro fuel
  induction fuel with
  | zero => intro n d e; simp [getFileBlocksExt]
  | succ fuel ih => intro n d e; simp [getFileBlocksExt, ih]

theorem getFileBlocks_reads (v : Nat) (entry : Blk) : (getFileBlocks v entry).Uses Prim.reads F := by
  simp [getFileBlocks, getFileBlocksExt_reads]

theorem readExtBlockNLoop_reads (v : Nat) : ∀ cnt n last, (readExtBlockNLoop v cnt n last).Uses Prim.reads F := by
  intro cnt
  induction cnt with
  | zero => intro n l; simp [readExtBlockNLoop]
  | succ cnt ih => intro n l; simp [readExtBlockNLoop, ih]

theorem fileReadExtBlockN_reads (h : FileH) (n : Nat) : (fileReadExtBlockN h n).Uses Prim.reads F := by
  simp [fileReadExtBlockN, readExtBlockNLoop_reads]

end

theorem renameTailWalk_reads (v : Nat) (intl : Bool) (nm : Bytes) :
    ∀ fuel n, (renameTailWalk v intl nm fuel n).Uses Prim.reads AnyFault := by
  intro fuel
  induction fuel with
  | zero => intro n; simp [renameTailWalk]
  | succ fuel ih => intro n; simp [renameTailWalk, ih]

theorem addInCacheWalk_reads (v : Nat) : ∀ fuel n, (addInCacheWalk v fuel n).Uses Prim.reads AnyFault := by
  intro fuel
  induction fuel with
  | zero => intro n; simp [addInCacheWalk]
  | succ fuel ih =>
    intro n
    simp [addInCacheWalk]
    intro _ b _
    split <;> simp [ih]

theorem hasFreeBlocks_reads (v n : Nat) : (hasFreeBlocks v n).Uses Prim.reads AnyFault := by
  simp [hasFreeBlocks]

theorem setBlockFree_noWrite (v n : Nat) : (setBlockFree v n).Uses Prim.noWrite AnyFault := by
  simp [setBlockFree]

theorem checkParent_reads (v p : Nat) : (checkParent v p).Uses Prim.reads AnyFault := by
  simp [checkParent, isBlockFree]

theorem freeFileBlocks_noWrite (v : Nat) (entry : Blk) : (freeFileBlocks v entry).Uses Prim.noWrite AnyFault := by
  have hloop : ∀ l : List Nat, (forIn l PUnit.unit fun b _ => do setBlockFree v b; pure (ForInStep.yield PUnit.unit)).Uses
      Prim.noWrite AnyFault := fun l => uses_forIn_list _ (fun a b => by simp [setBlockFree]) l _
  simp [freeFileBlocks, hloop, (getFileBlocks_reads v entry).noWrite fun _ => id]

theorem markWhileFree_noWrite (v : Nat) : ∀ l, (markWhileFree v l).Uses Prim.noWrite AnyFault := by
  intro l
  induction l with
  | nil => simp [markWhileFree]
  | cons b bs ih => simp [markWhileFree, ih, isBlockFree, setBlockUsed]

theorem freeAll_noWrite (v : Nat) : ∀ l, (freeAll v l).Uses Prim.noWrite AnyFault := by
  intro l
  induction l with
  | nil => simp [freeAll]
  | cons b bs ih => simp [freeAll, ih, setBlockFree]

theorem giveBack_noWrite (v hdr : Nat) (data exts : List Nat) : (giveBack v hdr data exts).Uses Prim.noWrite AnyFault := by
  simp [giveBack, freeAll_noWrite, setBlockFree]

theorem getFreeBlocks_noWrite (v nb : Nat) : (getFreeBlocks v nb).Uses Prim.noWrite AnyFault := by
  have hloop : ∀ l : List Nat, (forIn l PUnit.unit fun b _ => do setBlockUsed v b; pure (ForInStep.yield PUnit.unit)).Uses
      Prim.noWrite AnyFault := fun l => uses_forIn_list _ (fun a b => by simp [setBlockUsed]) l _
  simp [getFreeBlocks, hloop]

theorem get1FreeBlock_noWrite (v : Nat) : (get1FreeBlock v).Uses Prim.noWrite AnyFault := by
  simp only [get1FreeBlock, uses_bind, getFreeBlocks_noWrite, true_and]
  intro r
  split <;> trivial

end Adf
