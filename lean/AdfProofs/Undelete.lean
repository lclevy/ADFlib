import AdfProofs.WriteSetLemmas
import AdfProofs.CreateFound
import AdfProofs.Effects
/-!
# `adfUndelFile`, `adfUndelDir`, `adfGetDelEnt`: everything a call does (C02, C04, C05, C18)

`adfUndelFile` / `adfUndelDir` put a deleted entry back into its parent directory.  They mark the entry's header block —
for a file also every data and extension block — used BEFORE they link the entry, and give the blocks back when the link
is refused.  Each function is followed once, for every disk content, entry block, volume state and fault schedule, and
the walk collects what the call does to the free map and to the device (its writes, in order).  In the file's order:

* the free map: the marking loop and the give-back exit against the invariants `UsedAll` and `Part` of `Allocator.lean`;
  `adfAddInCache`, which runs after the link, releases nothing.  So success leaves every block of the entry allocated
  (C04), a refusal the free map block for block as it was (C05);
* the write set `UndelW` (no directory cache): at most one write of the entry's own block, at most one link write — the
  parent, or the chain's last entry with only its `nextSameHash` word replaced —, then the bitmap update (C18);
* the calls themselves: clearing the entry's stale chain link, `adfUndelFile` up to the link — with what the link step
  leaves on the disk of a healthy device (C02) — and whole, `adfUndelDir`;
* `adfGetDelEnt` only reads, and every entry it lists sits in a block of the volume that the free map has free:
  exactly the precondition `adfUndelEntry` then checks again.
-/
namespace Adf

/-- `I` is an invariant of (blocks marked so far, memory); the loop reports how many blocks of its list it marked.  The
    instance, used for the data and for the extension list in `undelFileLink_spec`, is `UsedAll v M m` together with —
    when the header block was free at the call's start — `Part v T0 M [] m`; its `step` is `UsedAll.mark` and `Part.mark`. -/
theorem markWhileFree_inv (c : Cfg) (v : Nat) (I : List Nat → Mem → Prop)
    (step : ∀ M m m' b, I M m → bmIsFree (m.vol v).bitmapTable b = true → Marked v b false m m' → I (M ++ [b]) m')
    (l M : List Nat) (s : St) (h : I M s.mem) :
    Post AnyFault c (markWhileFree v l) s (fun n s' => NoWrite s s' ∧ n ≤ l.length ∧ I (M ++ l.take n) s'.mem) := by
  refine (Post.noWrite (markWhileFree_noWrite v l)).and ?_
  induction l generalizing M s with
  | nil => exact Post.pure ⟨Nat.le_refl _, by rwa [List.take_nil, List.append_nil]⟩
  | cons b bs ih =>
    unfold markWhileFree
    apply Post.bind; apply Post.isBlockFree
    cases hfree : bmIsFree (s.mem.vol v).bitmapTable b with
    | false => exact Post.pure ⟨Nat.zero_le _, by rwa [List.take_zero, List.append_nil]⟩
    | true =>
      apply Post.bind; apply Post.setBlockUsed
      intro m1 k1
      apply Post.bind
      refine (ih (M ++ [b]) _ (step M _ _ b h hfree k1)).mono fun n s2 ⟨hle, h2⟩ => ?_
      exact Post.pure ⟨Nat.succ_le_succ hle, by rwa [List.take_succ_cons, List.append_cons]⟩

theorem freeAll_part (c : Cfg) (v : Nat) (T0 : List Blk) (M l F : List Nat) (s : St)
    (h : Part v T0 M F s.mem) (hl : ∀ k ∈ l, k ∈ M) :
    Post AnyFault c (freeAll v l) s (fun _ s' => Part v T0 M (l.reverse ++ F) s'.mem) := by
  induction l generalizing F s with
  | nil => exact Post.pure h
  | cons b bs ih =>
    unfold freeAll
    apply Post.bind; apply Post.setBlockFree
    intro m1 k1
    refine (ih (b :: F) _ (h.unmark (hl b List.mem_cons_self) k1) fun k hk => hl k (List.mem_cons_of_mem _ hk)).mono ?_
    intro _ s2 h2
    rw [List.reverse_cons, List.append_assoc]
    exact h2

theorem giveBack_restores (c : Cfg) (v hdr : Nat) (D E F : List Nat) (m0 : Mem) (s : St)
    (h : Part v (m0.vol v).bitmapTable (hdr :: (D ++ E)) F s.mem) :
    Post AnyFault c (giveBack v hdr D E) s (fun _ s' => FreeMapEq v m0 s'.mem) := by
  have hD : ∀ k ∈ D.reverse, k ∈ hdr :: (D ++ E) := fun k hk =>
    List.mem_cons_of_mem _ (List.mem_append_left _ (List.mem_reverse.mp hk))
  have hE : ∀ k ∈ E.reverse, k ∈ hdr :: (D ++ E) := fun k hk =>
    List.mem_cons_of_mem _ (List.mem_append_right _ (List.mem_reverse.mp hk))
  unfold giveBack
  apply Post.bind; apply Post.setBlockFree
  intro m1 k1
  apply Post.bind
  refine (freeAll_part c v _ _ _ _ _ (h.unmark List.mem_cons_self k1) hD).mono fun _ s2 h2 => ?_
  refine (freeAll_part c v _ _ _ _ s2 h2 hE).mono fun _ s3 h3 => h3.done fun k hk => ?_
  rw [List.reverse_reverse, List.reverse_reverse, List.mem_append, List.mem_append]
  rcases List.mem_cons.mp hk with rfl | hk
  · exact .inr (.inr List.mem_cons_self)
  · exact (List.mem_append.mp hk).elim (fun h => .inr (.inl h)) .inl

/-- no block of volume `v` is released between the two memories: whatever is allocated stays allocated -/
def NoRelease (v : Nat) (m m' : Mem) : Prop := ∀ U, UsedAll v U m → UsedAll v U m'

theorem addInCache_noRelease (c : Cfg) (v : Nat) (parent entry : Blk) (s : St) :
    Post AnyFault c (addInCache v parent entry) s (fun _ s' => NoRelease v s.mem s'.mem) := by
  unfold addInCache
  apply Post.bind; apply Post.getVolCfg
  apply Post.bind
  refine (Post.reads (addInCacheWalk_reads v _ _)).mono ?_
  rintro ⟨rc, dirc, off⟩ s1 r1
  have h1 : NoRelease v s.mem s1.mem := fun U hU => r1.mem ▸ hU
  refine Post.ite (fun _ => Post.pure h1) (fun _ => ?_)
  refine Post.ite (fun _ => ?_) (fun _ => ?_)
  · apply Post.bind; apply Post.writeDirCBlock
    intro rc2 s2 w2
    exact Post.pure (w2.kept.mem ▸ h1)
  · apply Post.bind; apply Post.get1FreeBlock
    · exact fun _ => Post.pure h1
    · intro b m _ k
      have h2 : NoRelease v s.mem m := fun U hU => ((h1 U hU).mark k).sub fun _ => List.mem_append_left _
      apply Post.bind; apply Post.writeDirCBlock
      intro rc3 s3 w3
      have h3 : NoRelease v s.mem s3.mem := w3.kept.mem ▸ h2
      refine Post.ite (fun _ => Post.pure h3) (fun _ => ?_)
      apply Post.bind; apply Post.writeDirCBlock
      intro rc4 s4 w4
      exact Post.pure (w4.kept.mem ▸ h3)

/-- the device writes of an undelete (newest first): the entry's own block at most once; then at most one link write — the
    parent or the tail of the chain as the disk `d1` then holds it (`d1` is the disk of the call's start when the own block
    was not written) — and, only after a successful link write, a bitmap update -/
def UndelW (c : Cfg) (disk0 : Std.HashMap Nat Bytes) (v : Nat) (parent : Blk) (key : Nat) (W : List Ev) : Prop :=
  ∃ own rest, W = rest ++ own ∧ One (ToSect c v key) own ∧ ((∃ e ∈ own, e.status ≠ 0) → rest = []) ∧
    (rest = [] ∨ ∃ d1 link bm, rest = bm ++ [link] ∧ (own = [] → d1 = disk0) ∧ IsCreateLinkWr c d1 v parent key link ∧
       (link.status ≠ 0 → bm = []) ∧ BmOrder c v bm)

/-- the writes up to and including the link step; `linked` says whether the entry is now in its parent -/
def UndelLinkW (c : Cfg) (disk0 : Std.HashMap Nat Bytes) (v : Nat) (parent : Blk) (key : Nat) (linked : Bool) (W : List Ev) : Prop :=
  ∃ own rest, W = rest ++ own ∧ One (ToSect c v key) own ∧ ((∃ e ∈ own, e.status ≠ 0) → rest = []) ∧
    ((linked = false ∧ rest = []) ∨ ∃ d1 link, rest = [link] ∧ (own = [] → d1 = disk0) ∧ IsCreateLinkWr c d1 v parent key link ∧
       (link.status = 0 ↔ linked = true))

section
variable {c : Cfg} {disk0 : Std.HashMap Nat Bytes} {v : Nat} {parent : Blk} {key : Nat} {W : List Ev}

theorem UndelLinkW.own {own : List Ev} (ho : One (ToSect c v key) own) : UndelLinkW c disk0 v parent key false own :=
  ⟨own, [], rfl, ho, fun _ => rfl, .inl ⟨rfl, rfl⟩⟩

theorem CreateAtW.undelLink {d1 : Std.HashMap Nat Bytes} {r : Option Nat} {own : List Ev}
    (h : CreateAtW c d1 v parent key r W) (ho : One (ToSect c v key) own) (hok : ∀ e ∈ own, e.status = 0)
    (hd : own = [] → d1 = disk0) : UndelLinkW c disk0 v parent key r.isSome (W ++ own) := by
  have hnofail : (∃ e ∈ own, e.status ≠ 0) → W = [] := fun ⟨e, he, hst⟩ => absurd (hok e he) hst
  cases r with
  | none =>
    rcases h with h0 | ⟨e, hWe, hl, hst⟩
    · exact ⟨own, W, rfl, ho, hnofail, .inl ⟨rfl, h0⟩⟩
    · exact ⟨own, W, rfl, ho, hnofail, .inr ⟨d1, e, hWe, hd, hl, fun h => absurd h hst, nofun⟩⟩
  | some n =>
    obtain ⟨_, e, hWe, hl, hst⟩ := h
    exact ⟨own, W, rfl, ho, hnofail, .inr ⟨d1, e, hWe, hd, hl, fun _ => rfl, fun _ => hst⟩⟩

/-- after the link step nothing more is written, or — only when the entry is linked — the bitmap update `Wb` -/
theorem UndelLinkW.then {linked : Bool} {Wb : List Ev} (h : UndelLinkW c disk0 v parent key linked W) (hb : BmOrder c v Wb)
    (h0 : linked = false → Wb = []) : UndelW c disk0 v parent key (Wb ++ W) := by
  obtain ⟨own, rest, hW, ho, hf, hr⟩ := h
  rcases hr with ⟨hl, rfl⟩ | ⟨d1, link, rfl, hd, hl, hst⟩
  · rw [h0 hl]
    exact ⟨own, [], hW, ho, fun _ => rfl, .inl rfl⟩
  · exact ⟨own, Wb ++ [link], by rw [hW, List.append_assoc], ho, fun hfail => (nomatch hf hfail),
      .inr ⟨d1, link, Wb, rfl, hd, hl, fun hne => h0 (Bool.eq_false_iff.mpr fun h => hne (hst.mpr h)), hb⟩⟩

theorem UndelLinkW.linked (h : UndelLinkW c disk0 v parent key true W) :
    ∃ e ∈ W, e.status = 0 ∧ ∃ d1, IsCreateLinkWr c d1 v parent key e := by
  obtain ⟨own, rest, hW, _, _, hr⟩ := h
  rcases hr with ⟨h, _⟩ | ⟨d1, link, hr, _, hl, hst⟩
  · cases h
  · exact ⟨link, by rw [hW, hr]; exact List.mem_cons_self, hst.mpr rfl, d1, hl⟩

end

theorem UndelLinkW.nothing {c : Cfg} {disk0 : Std.HashMap Nat Bytes} {v : Nat} {parent : Blk} {key : Nat} :
    UndelLinkW c disk0 v parent key false [] :=
  .own (.inl rfl)

theorem WriteStep.own {c : Cfg} {v n : Nat} {b : Bytes} {s s' : St} {rc : RC} (w : WriteStep c v n b s rc s') :
    ∃ own, Wrote s s' own ∧ One (ToSect c v n) own ∧ (rc = rcOK → ∀ e ∈ own, e.status = 0) ∧ (own = [] → s'.disk = s.disk) := by
  rcases w.wrote with ⟨hw, hne⟩ | ⟨st, hw, hst⟩
  · exact ⟨[], hw, .inl rfl, fun _ _ h => (List.not_mem_nil h).elim, fun _ => w.fail hne⟩
  · exact ⟨[_], hw, .inr ⟨_, rfl, _, st, rfl⟩, fun hk e he => List.mem_singleton.mp he ▸ hst.mp hk, nofun⟩

/-- what rewriting the deleted entry's block with its stale chain link cleared does (`fix` is the writer's normaliser,
    `own` the device writes: at most one, of the entry's own block; none, and no step at all, when the link is 0 already) -/
structure Cleared (c : Cfg) (v : Nat) (entry : Blk) (fix : Blk → Blk) (s : St) (r : RC × Blk) (s' : St) (own : List Ev) :
    Prop where
  blk : r.2 = entry ∨ r.2 = fix (entry.setW F_nextSameHash 0)
  kept : MemKept s s'
  wrote : Wrote s s' own
  one : One (ToSect c v (entry.w F_headerKey)) own
  ok : r.1 = rcOK → ∀ e ∈ own, e.status = 0
  disk : own = [] → s'.disk = s.disk
  idle : entry.w F_nextSameHash = 0 → s' = s

/-- the step is the same in `adfUndelDir` and `adfUndelFile` but for the writer `wr` (with its rule `hwr`) -/
theorem clearLink_spec {c : Cfg} {v : Nat} {wr : Nat → Nat → Blk → Prog (RC × Blk)} {fix : Blk → Blk} {f : RC → RC}
    (hwr : ∀ {n b s Q}, (∀ rc s', WriteStep c v n (bytesOfBlk (withSum (fix b) F_checkSum)) s rc s' → Q (f rc, fix b) s') →
      Post AnyFault c (wr v n b) s Q)
    (hf : ∀ rc, f rc = rcOK ↔ rc = rcOK) (entry : Blk) (s : St) :
    Post AnyFault c (do
        if entry.w F_nextSameHash ≠ 0 then
          let (rc, e') ← wr v (entry.w F_headerKey) (entry.setW F_nextSameHash 0)
          if rc ≠ rcOK then return (rc, entry)
          return (rcOK, e')
        else return (rcOK, entry) : Prog (RC × Blk)) s
      (fun r s' => ∃ own, Cleared c v entry fix s r s' own) := by
  refine Post.ite (fun hn => ?_) (fun _ => ?_)
  · apply Post.bind; apply hwr
    intro rc s' w
    obtain ⟨own, hw, ho, hok, hd⟩ := w.own
    refine Post.ite (fun hne => ?_) (fun _ => ?_)
    · exact Post.pure ⟨own, .inl rfl, w.kept, hw, ho, fun h => absurd h hne, hd, fun h => absurd h hn⟩
    · exact Post.pure ⟨own, .inr rfl, w.kept, hw, ho, fun _ => hok ((hf rc).mp (Classical.not_not.mp ‹_›)), hd,
        fun h => absurd h hn⟩
  · exact Post.pure ⟨[], .inl rfl, .refl s, .refl s, .inl rfl, fun _ _ h => (List.not_mem_nil h).elim, fun _ => rfl, fun _ => rfl⟩

theorem Cleared.w {c : Cfg} {v : Nat} {entry : Blk} {fix : Blk → Blk} {s s' : St} {r : RC × Blk} {own : List Ev}
    (cl : Cleared c v entry fix s r s' own) {k : Nat} (hk : F_nextSameHash ≠ k) (hfix : ∀ b, (fix b).w k = b.w k) :
    r.2.w k = entry.w k :=
  cl.blk.elim (· ▸ rfl) (· ▸ (hfix _).trans (Blk.w_setW_ne hk))

/-- what `undelFileLink` has done when it returns.  `link`: a call that links the file ended with the link step
    (`adfCreateEntry` on the parent block as the disk had it, for the entry's own block), begun in a state that no write
    precedes if the entry's stale link was 0 already — what `UndelLinkDone.healthy` starts from -/
structure UndelLinkDone (c : Cfg) (v pSect : Nat) (entry : Blk) (data exts : List Nat) (s : St)
    (r : RC × Option (Blk × Blk)) (s' : St) : Prop where
  fail : r.2 = none → r.1 ≠ rcOK
  link : r.2.isSome = true → ∃ s1 n d, (entry.w F_nextSameHash = 0 → NoWrite s s1) ∧
    CreateAtRun c v (blkOfBytes ((s.sector (vsect c v pSect)).take 512)) (salvName entry) (entry.w F_headerKey) s1 (some n, d) s'
  wrote : ∃ W, Wrote s s' W ∧
    UndelLinkW c s.disk v (blkOfBytes ((s.sector (vsect c v pSect)).take 512)) (entry.w F_headerKey) r.2.isSome W
  marks : TableWF (s.mem.vol v).bitmapTable → r.2.isSome = true →
    UsedAll v (entry.w F_headerKey :: (data ++ exts)) s'.mem
  restores : TableWF (s.mem.vol v).bitmapTable → bmIsFree (s.mem.vol v).bitmapTable (entry.w F_headerKey) = true →
    r.2 = none → FreeMapEq v s.mem s'.mem

theorem undelFileLink_spec (c : Cfg) (v pSect : Nat) (entry : Blk) (data exts : List Nat) (s : St) :
    Post AnyFault c (undelFileLink v pSect entry data exts) s (UndelLinkDone c v pSect entry data exts s) := by
  -- the free map while blocks are marked: all of `M` allocated; `Part`, when the header block was free
  let I : List Nat → Mem → Prop := fun M m => TableWF (s.mem.vol v).bitmapTable →
    UsedAll v M m ∧ (bmIsFree (s.mem.vol v).bitmapTable (entry.w F_headerKey) = true → Part v (s.mem.vol v).bitmapTable M [] m)
  have step : ∀ M m m' b, I M m → bmIsFree (m.vol v).bitmapTable b = true → Marked v b false m m' → I (M ++ [b]) m' :=
    fun M m m' b h hf hb hwf => ⟨(h hwf).1.mark hb, fun hfree => ((h hwf).2 hfree).mark hf hb⟩
  -- the exits that give the blocks `D`, `E` back: marked in `s1`; since then the free map was at most touched by the
  -- release of the header block
  have exit : ∀ (D E : List Nat) (s1 : St), I (entry.w F_headerKey :: (D ++ E)) s1.mem → ∀ (rc : RC) (s2 : St) (W : List Ev),
      rc ≠ rcOK → (s2.mem = s1.mem ∨ Marked v (entry.w F_headerKey) true s1.mem s2.mem) →
      Wrote s s2 W → UndelLinkW c s.disk v (blkOfBytes ((s.sector (vsect c v pSect)).take 512)) (entry.w F_headerKey) false W →
      Post AnyFault c (do giveBack v (entry.w F_headerKey) D E; pure (rc, none) : Prog (RC × Option (Blk × Blk))) s2
        (UndelLinkDone c v pSect entry data exts s) := by
    intro D E s1 hI rc s2 W hrc ht hW hL
    apply Post.bind
    -- `hI` yields `Part` only under the two premises of the field `restores`, while the writes of `giveBack` need none:
    -- `Post.assume` hands the premises over as `h` and leaves them in the postcondition, where they are those of
    -- `restores` — whoever uses that field supplies them (`undelFileRest_spec`, C05)
    refine ((Post.noWrite (giveBack_noWrite v _ D E)).and (Post.assume fun h : TableWF (s.mem.vol v).bitmapTable ∧
      bmIsFree (s.mem.vol v).bitmapTable (entry.w F_headerKey) = true => ?_)).mono fun _ s3 ⟨q3, h3⟩ =>
        Post.pure ⟨fun _ => hrc, nofun, ⟨W, hW.noWrite q3, hL⟩, nofun, fun hwf hfree _ => h3 ⟨hwf, hfree⟩⟩
    obtain ⟨F, hp⟩ := ((hI h.1).2 h.2).of_released List.mem_cons_self ht
    exact giveBack_restores c v _ D E F s.mem s2 hp
  unfold undelFileLink
  apply Post.bind; apply Post.getVolCfg
  apply Post.bind; apply Post.setBlockUsed
  intro m1 k1
  have q1 : NoWrite s { s with mem := m1 } := .setMem (.refl s) m1
  have i1 : I [entry.w F_headerKey] m1 := fun hwf =>
    ⟨UsedAll.mark (U := []) ⟨hwf, nofun⟩ k1, fun hfree => (Part.init v s.mem hwf).mark hfree k1⟩
  apply Post.bind
  refine (markWhileFree_inv c v I step data _ { s with mem := m1 } i1).mono ?_
  rintro nD s2 ⟨q2, hD, i2⟩
  apply Post.bind
  refine Post.mono (Q := fun nE s3 => NoWrite s2 s3 ∧ nE ≤ exts.length ∧
    I (entry.w F_headerKey :: (data.take nD ++ exts.take nE)) s3.mem) ?_ ?_
  · exact Post.ite (fun _ => markWhileFree_inv c v I step exts _ s2 i2)
      (fun _ => Post.pure ⟨.refl s2, Nat.zero_le _, by rwa [List.take_zero, List.append_nil]⟩)
  rintro nE s3 ⟨q3, hE, i3⟩
  have q : NoWrite s s3 := (q1.trans q2).trans q3
  refine Post.ite (fun _ => exit _ _ s3 i3 _ s3 [] rcError_ne_ok (.inl rfl) q.wrote .nothing) (fun hshort => ?_)
  -- both lists are marked entirely; from here on the library's memory is kept until an exit
  rw [List.take_of_length_le (by omega), List.take_of_length_le (by omega)] at i3
  replace exit := exit data exts s3 i3
  apply Post.bind
  refine Post.mono (Q := fun _ s4 => Reads s3 s4) ?_ ?_
  · exact Post.ite (fun _ => Post.reads (hasFreeBlocks_reads v 1)) (fun _ => Post.pure (.refl s3))
  intro room s4 r4
  refine Post.ite (fun _ => exit _ s4 [] rcVolFull_ne_ok (.inl r4.mem) (q.trans r4.toNoWrite).wrote .nothing) (fun _ => ?_)
  apply Post.bind; apply Post.readEntryBlock
  intro rc parent s5 r5 _
  have q5 : NoWrite s s5 := q.trans (r4.trans r5.reads).toNoWrite
  have m5 : s5.mem = s3.mem := (r4.trans r5.reads).mem
  refine Post.ite (fun hrc => exit _ s5 [] hrc (.inl m5) q5.wrote .nothing) (fun hrc => ?_)
  obtain rfl : parent = blkOfBytes ((s.sector (vsect c v pSect)).take 512) := by
    rw [r5.ok (Classical.not_not.mp hrc), (q.trans r4.toNoWrite).sector]
  apply Post.bind
  refine (clearLink_spec Post.writeFileHdrBlock (fun _ => Iff.rfl) entry s5).mono ?_
  rintro e s6 ⟨own, cl⟩
  have hk : e.2.w F_headerKey = entry.w F_headerKey := cl.w (by decide) fun b => fileHdrFixed_w b _ (by decide)
  have hW6 : Wrote s s6 own := q5.then_wrote cl.wrote
  have m6 : s6.mem = s3.mem := cl.kept.mem.trans m5
  refine Post.ite (fun he => exit _ s6 own he (.inl m6) hW6 (.own cl.one)) (fun he => ?_)
  apply Post.bind
  refine (createEntryAt_run c v _ (salvName entry) _ s6).mono ?_
  rintro ⟨ns, p'⟩ s7 h7
  rw [hk] at h7
  obtain ⟨W1, hW1, hC⟩ := h7.writeSet
  have hL := hC.undelLink cl.one (cl.ok (Classical.not_not.mp he)) fun h => (cl.disk h).trans q5.disk
  have ht7 := m6 ▸ h7.mem
  cases ns with
  | none => exact exit _ s7 _ rcError_ne_ok (ht7.imp_right And.right) (hW6.trans hW1) hL
  | some n =>
    exact Post.pure ⟨nofun, fun _ => ⟨s6, n, p', fun hn => cl.idle hn ▸ q5, h7⟩, ⟨_, hW6.trans hW1, hL⟩,
      fun hwf _ => (ht7.resolve_right fun h => nomatch h.1) ▸ (i3 hwf).1, nofun⟩

/-- **a file linked by `adfUndelFile` is in its parent** (healthy device, the slot of its name empty, its stale link
    already 0): when the link step reports success the disk differs from the one before the call in the parent's sector
    only, and that sector holds a valid directory block whose slot for the entry's name points to the entry's block -/
theorem UndelLinkDone.healthy {c : Cfg} {v pSect : Nat} {entry parent : Blk} {data exts : List Nat} {s s' : St}
    {r : RC × Option (Blk × Blk)} (h : UndelLinkDone c v pSect entry data exts s r s') (hf : s.faultAt = none)
    (hrw : (c.vol v).readOnly = false) (hpar : EntryAt c s.disk v pSect parent) (hkey : dirKey (c.vol v) parent = pSect)
    (hslot : parent.hash (hashName (useIntl (c.vol v).dosType) (salvName entry)) = 0)
    (hn : entry.w F_nextSameHash = 0) (ht32 : entry.w F_headerKey < 4294967296) (hsome : r.2.isSome = true) :
    Rewrote c v pSect (fun d => d.hash (hashName (useIntl (c.vol v).dosType) (salvName entry)) = entry.w F_headerKey)
      s.disk s' := by
  obtain ⟨s1, n, d, q, run⟩ := h.link hsome
  have q := q hn
  obtain ⟨_, hR⟩ := (show CreateAtRun c v parent _ _ s1 _ s' from hpar.sector ▸ run).slot_healthy (q.faultAt.trans hf) hrw
    hpar.wf hslot (hkey ▸ hpar.1) ht32
  exact hkey ▸ q.disk ▸ hR

/-- what `adfUndelFile` has done, from the point where it has the file's block lists: `marks` is what C04 states,
    `wrote` (volumes without directory cache) what C18 states, `restores` what C05 states -/
structure UndelFileDone (c : Cfg) (v pSect : Nat) (entry : Blk) (data exts : List Nat) (s : St) (rc : RC) (s' : St) :
    Prop where
  marks : TableWF (s.mem.vol v).bitmapTable → rc = rcOK → UsedAll v (entry.w F_headerKey :: (data ++ exts)) s'.mem
  wrote : isDIRCACHE (c.vol v).dosType = false → ∃ W, Wrote s s' W ∧
    UndelW c s.disk v (blkOfBytes ((s.sector (vsect c v pSect)).take 512)) (entry.w F_headerKey) W
  restores : TableWF (s.mem.vol v).bitmapTable → bmIsFree (s.mem.vol v).bitmapTable (entry.w F_headerKey) = true →
    FreeMapEq v s.mem s'.mem ∨ ∃ W e, Wrote s s' W ∧ e ∈ W ∧ e.status = 0 ∧
      ∃ d1, IsCreateLinkWr c d1 v (blkOfBytes ((s.sector (vsect c v pSect)).take 512)) (entry.w F_headerKey) e

theorem undelFileRest_spec (c : Cfg) (v pSect : Nat) (entry : Blk) (data exts : List Nat) (s : St) :
    Post AnyFault c (undelFileRest v pSect entry data exts) s (UndelFileDone c v pSect entry data exts s) := by
  unfold undelFileRest
  apply Post.bind; apply Post.getVolCfg
  apply Post.bind
  refine (undelFileLink_spec c v pSect entry data exts s).mono ?_
  rintro ⟨rc, cont⟩ s1 ⟨hfail, _, ⟨W, hW, hL⟩, hmarks, hrest⟩
  cases cont with
  | none =>
    exact Post.pure ⟨fun _ h => absurd h (hfail rfl), fun _ => ⟨W, hW, hL.then (.inl rfl) fun _ => rfl⟩, fun hwf hfree => .inl (hrest hwf hfree rfl)⟩
  | some pe =>
    obtain ⟨e, he, hst, d1, hl⟩ := hL.linked
    -- the file is linked: nothing is released any more, and the writes that follow are those of the bitmap update
    have fin : ∀ rc s2 Wb, NoRelease v s1.mem s2.mem → Wrote s1 s2 Wb →
        (isDIRCACHE (c.vol v).dosType = false → BmOrder c v Wb) → UndelFileDone c v pSect entry data exts s rc s2 :=
      fun rc s2 Wb hn hWb hb => ⟨fun hwf _ => hn _ (hmarks hwf rfl), fun hnc => ⟨_, hW.trans hWb, hL.then (hb hnc) nofun⟩,
        fun _ _ => .inr ⟨_, e, hW.trans hWb, List.mem_append_right _ he, hst, d1, hl⟩⟩
    have bitmap : ∀ s2 Wa, NoRelease v s1.mem s2.mem → Wrote s1 s2 Wa → (isDIRCACHE (c.vol v).dosType = false → Wa = []) →
        Post AnyFault c (updateBitmap v) s2 (UndelFileDone c v pSect entry data exts s) := fun s2 Wa hn hWa h0 =>
      (updateBitmap_spec c v s2).mono fun rc s3 ⟨ht, Wb, hWb, hbo⟩ =>
        fin rc s3 (Wb ++ Wa) (fun U hU => (hn U hU).of_table_eq ht) (hWa.trans hWb)
          fun hnc => by rw [h0 hnc, List.append_nil]; exact hbo
    refine Post.ite (fun hd => ?_) (fun _ => bitmap s1 [] (fun _ h => h) (.refl s1) fun _ => rfl)
    apply Post.bind
    refine ((addInCache_noRelease c v _ _ s1).and (writes_grow c _ s1 fun _ => trivial)).mono ?_
    rintro rc2 s2 ⟨hn, Wa, hWa⟩
    exact Post.ite (fun _ => Post.pure (fin rc2 s2 Wa hn hWa (Bool.absurd hd))) (fun _ => bitmap s2 Wa hn hWa (Bool.absurd hd))

/-- **`adfUndelFile`, the whole call**: on success the entry's header block is allocated; and either the free map is what
    it was, or the file has been linked — every way the call can end without a successful link write in its log (wrong
    parent, header block in use, unreadable extension chain, a block of the file in use, the name exists again, a refused
    write) leaves the free map block for block as it was when the call began -/
theorem undelFile_spec (c : Cfg) (v pSect : Nat) (entry : Blk) (s : St) (hwf : TableWF (s.mem.vol v).bitmapTable) :
    Post AnyFault c (undelFile v pSect entry) s (fun rc s' => (rc = rcOK → UsedAll v [entry.w F_headerKey] s'.mem) ∧
      (FreeMapEq v s.mem s'.mem ∨ ∃ W e, Wrote s s' W ∧ e ∈ W ∧ e.status = 0 ∧
        ∃ d1, IsCreateLinkWr c d1 v (blkOfBytes ((s.sector (vsect c v pSect)).take 512)) (entry.w F_headerKey) e)) := by
  have stop : ∀ (rc : RC) (s' : St) (R : Prop), rc ≠ rcOK → Reads s s' →
      (rc = rcOK → UsedAll v [entry.w F_headerKey] s'.mem) ∧ (FreeMapEq v s.mem s'.mem ∨ R) :=
    fun rc s' R hrc r => ⟨fun h => absurd h hrc, .inl (.of_table_eq (by rw [r.mem]))⟩
  unfold undelFile
  apply Post.bind
  refine (Post.reads (checkParent_reads v pSect)).mono fun rc0 s1 r1 => ?_
  refine Post.ite (fun h => Post.pure (stop _ _ _ h r1)) (fun _ => ?_)
  refine Post.ite (fun _ => Post.pure (stop _ _ _ rcError_ne_ok r1)) (fun _ => ?_)
  apply Post.bind; apply Post.isBlockFree
  refine Post.ite (fun _ => Post.pure (stop _ _ _ rcError_ne_ok r1)) (fun hf => ?_)
  apply Post.bind
  refine (Post.reads (getFileBlocks_reads v entry)).mono ?_
  rintro ⟨rc, data, exts⟩ s2 r2
  have r := r1.trans r2
  refine Post.ite (fun h => Post.pure (stop _ _ _ h r)) (fun _ => ?_)
  refine (undelFileRest_spec c v pSect entry data exts s2).mono fun rc3 s3 h => ?_
  have hwf2 : TableWF (s2.mem.vol v).bitmapTable := by rw [r.mem]; exact hwf
  refine ⟨fun hk => (h.marks hwf2 hk).sub fun k hk => List.mem_singleton.mp hk ▸ List.mem_cons_self, ?_⟩
  rcases h.restores hwf2 (by rw [r2.mem]; simpa using hf) with he | ⟨W, e, hW, hl⟩
  · exact .inl fun k hk => by rw [he k hk, r.mem]
  · rw [r.toNoWrite.sector] at hl
    exact .inr ⟨W, e, r.toNoWrite.then_wrote hW, hl⟩

/-- the entry is in its parent now: the log of the call holds a successful link write for block `key` -/
def Linked (c : Cfg) (v : Nat) (key : Nat) (s s' : St) : Prop :=
  ∃ W e, writesOf s'.trace = W ++ writesOf s.trace ∧ e ∈ W ∧ e.status = 0 ∧ ∃ d1 parent, IsCreateLinkWr c d1 v parent key e

/-- what `adfUndelDir` has done: `marks` is what C04 states (on a DIRCACHE volume also for the cache block), `wrote` what
    C18 states, `takes` what C05 states — it takes the directory's block exactly when it links the directory -/
structure UndelDirDone (c : Cfg) (v pSect : Nat) (entry : Blk) (s : St) (rc : RC) (s' : St) : Prop where
  marks : TableWF (s.mem.vol v).bitmapTable → rc = rcOK → UsedAll v [entry.w F_headerKey] s'.mem ∧
    (isDIRCACHE (c.vol v).dosType = true → UsedAll v [entry.w F_extension] s'.mem)
  wrote : isDIRCACHE (c.vol v).dosType = false → ∃ W, Wrote s s' W ∧
    UndelW c s.disk v (blkOfBytes ((s.sector (vsect c v pSect)).take 512)) (entry.w F_headerKey) W
  takes : isDIRCACHE (c.vol v).dosType = false → TableWF (s.mem.vol v).bitmapTable → FreeMapEq v s.mem s'.mem ∨
    (Linked c v (entry.w F_headerKey) s s' ∧ FreeMapStep v s.mem s'.mem (some (entry.w F_headerKey)))

theorem undelDir_spec (c : Cfg) (v pSect : Nat) (entry : Blk) (s : St) :
    Post AnyFault c (undelDir v pSect entry) s (UndelDirDone c v pSect entry s) := by
  -- a refusal with the free map as it was, after the writes `W`
  have stop : ∀ (rc : RC) (s' : St) (W : List Ev), rc ≠ rcOK → Wrote s s' W →
      UndelLinkW c s.disk v (blkOfBytes ((s.sector (vsect c v pSect)).take 512)) (entry.w F_headerKey) false W →
      (TableWF (s.mem.vol v).bitmapTable → FreeMapEq v s.mem s'.mem) → UndelDirDone c v pSect entry s rc s' :=
    fun rc s' W hrc hW hL he =>
      ⟨fun _ h => absurd h hrc, fun _ => ⟨W, hW, hL.then (.inl rfl) fun _ => rfl⟩, fun _ hwf => .inl (he hwf)⟩
  have stop0 : ∀ (rc : RC) (s' : St), rc ≠ rcOK → Reads s s' → UndelDirDone c v pSect entry s rc s' := fun rc s' hrc r =>
    stop rc s' [] hrc r.toNoWrite.wrote .nothing fun _ => .of_table_eq (by rw [r.mem])
  unfold undelDir
  apply Post.bind; apply Post.getVolCfg
  apply Post.bind
  refine (Post.reads (checkParent_reads v pSect)).mono fun rc0 s1 r1 => ?_
  refine Post.ite (fun h => Post.pure (stop0 _ _ h r1)) (fun _ => ?_)
  refine Post.ite (fun _ => Post.pure (stop0 _ _ rcError_ne_ok r1)) (fun _ => ?_)
  apply Post.bind; apply Post.isBlockFree
  refine Post.ite (fun _ => Post.pure (stop0 _ _ rcError_ne_ok r1)) (fun hf => ?_)
  have hfree : bmIsFree (s.mem.vol v).bitmapTable (entry.w F_headerKey) = true := by rw [← r1.mem]; simpa using hf
  -- on a DIRCACHE volume two more checks come first; what follows them is proved once
  extract_lets name bitmap link check3
  have hlink : ∀ s2, Reads s s2 → Post AnyFault c (link ()) s2 (UndelDirDone c v pSect entry s) := by
    intro s2 r2
    apply Post.bind; apply Post.readEntryBlock
    intro rc parent s3 r3 _
    have q3 : Reads s s3 := r2.trans r3.reads
    refine Post.ite (fun h => Post.pure (stop0 _ _ h q3)) (fun hrc => ?_)
    obtain rfl : parent = blkOfBytes ((s.sector (vsect c v pSect)).take 512) := by
      rw [r3.ok (Classical.not_not.mp hrc), r2.toNoWrite.sector]
    apply Post.bind
    refine (clearLink_spec Post.writeDirBlock dirRc_ok entry s3).mono ?_
    rintro e s4 ⟨own, cl⟩
    have hk : e.2.w F_headerKey = entry.w F_headerKey := cl.w (by decide) fun b => dirFixed_w b _ (by decide)
    have hx : e.2.w F_extension = entry.w F_extension := cl.w (by decide) fun b => dirFixed_w b _ (by decide)
    have hW4 : Wrote s s4 own := q3.toNoWrite.then_wrote cl.wrote
    have hm4 : s4.mem = s.mem := cl.kept.mem.trans q3.mem
    refine Post.ite (fun he => Post.pure (stop _ _ own he hW4 (.own cl.one) fun _ => .of_table_eq (by rw [hm4]))) (fun he => ?_)
    apply Post.bind; apply Post.setBlockUsed
    intro m5 k5
    rw [hk, hm4] at k5
    have hp5 : TableWF (s.mem.vol v).bitmapTable → Part v (s.mem.vol v).bitmapTable [entry.w F_headerKey] [] m5 :=
      fun hwf => (Part.init v s.mem hwf).mark hfree k5
    apply Post.bind
    refine (createEntryAt_run c v _ name _ _).mono ?_
    rintro ⟨ns, p'⟩ s6 h6
    rw [hk] at h6
    obtain ⟨W1, hW1, hC⟩ := h6.writeSet
    have hm6 := h6.mem
    have hL := hC.undelLink cl.one (cl.ok (Classical.not_not.mp he)) fun h => (cl.disk h).trans q3.disk
    have hW6 : Wrote s s6 (W1 ++ own) := Wrote.trans (s2 := { s4 with mem := m5 }) hW4 hW1
    cases ns with
    | none =>
      refine Post.ite (fun _ => ?_) (fun h => absurd rfl h)
      apply Post.bind; apply Post.setBlockFree
      intro m7 k7
      rw [hk] at k7
      refine Post.pure (stop _ _ _ rcError_ne_ok hW6 hL fun hwf => ?_)
      obtain ⟨F, hp6⟩ := (hp5 hwf).of_released List.mem_cons_self (hm6.imp_right And.right)
      exact (hp6.unmark List.mem_cons_self k7).done fun k hk => List.mem_singleton.mp hk ▸ List.mem_cons_self
    | some n =>
      have hm6 : s6.mem = m5 := hm6.resolve_right fun h => nomatch h.1
      refine Post.ite (fun h => nomatch h) (fun _ => Post.ite (fun hd => ?_) (fun hd => ?_))
      · apply Post.bind; apply Post.setBlockUsed
        intro m7 k7
        rw [hx, hm6] at k7
        apply Post.bind
        refine (addInCache_noRelease c v _ _ _).mono fun rc8 s8 n8 => ?_
        have h8 : TableWF (s.mem.vol v).bitmapTable →
            UsedAll v ([entry.w F_headerKey] ++ [entry.w F_extension]) s8.mem :=
          fun hwf => n8 _ ((hp5 hwf).usedAll.mark k7)
        refine Post.ite (fun h => Post.pure ⟨fun _ hk => absurd hk h, Bool.absurd hd, Bool.absurd hd⟩) (fun _ => ?_)
        refine (updateBitmap_spec c v s8).mono fun rc9 s9 h9 => ⟨fun hwf _ => ?_, Bool.absurd hd, Bool.absurd hd⟩
        exact ⟨((h8 hwf).of_table_eq h9.1).sub fun k hk => List.mem_append_left _ hk,
          fun _ => ((h8 hwf).of_table_eq h9.1).sub fun k hk => List.mem_append_right _ hk⟩
      · refine (updateBitmap_spec c v s6).mono ?_
        rintro rc7 s7 ⟨ht7, Wb, hWb, hbo⟩
        have hp7 := fun hwf => (hp5 hwf).of_table_eq (ht7.trans (by rw [hm6]))
        obtain ⟨e, he, hst, d1, hl⟩ := hL.linked
        exact ⟨fun hwf _ => ⟨(hp7 hwf).usedAll, fun h => absurd h hd⟩, fun _ => ⟨_, hW6.trans hWb, hL.then hbo nofun⟩,
          fun _ hwf => .inr ⟨⟨_, e, hW6.trans hWb, List.mem_append_right _ he, hst, d1, _, hl⟩, (hp7 hwf).step⟩⟩
  have hcheck3 : ∀ s2, Reads s s2 → Post AnyFault c (check3 ()) s2 (UndelDirDone c v pSect entry s) := by
    intro s2 r2
    refine Post.ite (fun _ => ?_) (fun _ => hlink s2 r2)
    apply Post.bind
    refine (Post.reads (hasFreeBlocks_reads v 3)).mono fun room s3 r3 => ?_
    exact Post.ite (fun _ => Post.pure (stop0 _ _ rcVolFull_ne_ok (r2.trans r3))) (fun _ => hlink s3 (r2.trans r3))
  refine Post.ite (fun _ => ?_) (fun _ => hcheck3 s1 r1)
  apply Post.bind; apply Post.isBlockFree
  exact Post.ite (fun _ => Post.pure (stop0 _ _ rcError_ne_ok r1)) (fun _ => hcheck3 s1 r1)

theorem readGenBlock_spec (c : Cfg) (v n : Nat) (s : St) :
    Post AnyFault c (readGenBlock v n) s (fun r s' => Reads s s' ∧ ∀ ty e, r = some (ty, e) → e.2.1 = n) := by
  unfold readGenBlock
  apply Post.bind; apply Post.read
  intro rc buf s1 r1
  refine Post.ite (fun _ => Post.pure ⟨r1.reads, nofun⟩) (fun _ => ?_)
  exact Post.ite (fun _ => Post.pure ⟨r1.reads, fun _ _ h => by cases h; rfl⟩)
    (fun _ => Post.pure ⟨r1.reads, fun _ _ h => by cases h; rfl⟩)

theorem getDelScan_spec (c : Cfg) (v : Nat) (l : List Nat) (acc : List GenEnt) (s : St) :
    Post AnyFault c (getDelScan v l acc) s (fun r s' => Reads s s' ∧ ∀ L, r = some L → ∀ e ∈ L,
      e ∈ acc ∨ (e.2.1 ∈ l ∧ bmIsFree (s.mem.vol v).bitmapTable e.2.1 = true)) := by
  induction l generalizing acc s with
  | nil => exact Post.pure ⟨.refl s, fun L hL e he => by cases hL; exact .inl (List.mem_reverse.mp he)⟩
  | cons i is ih =>
    -- the rest of the scan, from an accumulator that holds at most one more entry, of block `i`
    have rest : ∀ (acc' : List GenEnt) (s1 : St), Reads s s1 →
        (∀ e ∈ acc', e ∈ acc ∨ (e.2.1 = i ∧ bmIsFree (s.mem.vol v).bitmapTable i = true)) →
        Post AnyFault c (getDelScan v is acc') s1 (fun r s' => Reads s s' ∧ ∀ L, r = some L → ∀ e ∈ L,
          e ∈ acc ∨ (e.2.1 ∈ i :: is ∧ bmIsFree (s.mem.vol v).bitmapTable e.2.1 = true)) := by
      intro acc' s1 r1 hacc
      refine (ih acc' s1).mono ?_
      rintro r s' ⟨r', hL⟩
      refine ⟨r1.trans r', fun L hr e he => ?_⟩
      rcases hL L hr e he with h | ⟨h1, h2⟩
      · exact (hacc e h).imp_right fun ⟨h1, h2⟩ => ⟨h1 ▸ List.mem_cons_self, h1 ▸ h2⟩
      · exact .inr ⟨List.mem_cons_of_mem _ h1, r1.mem ▸ h2⟩
    unfold getDelScan
    apply Post.bind; apply Post.isBlockFree
    refine Post.ite (fun hfree => ?_) (fun _ => rest acc s (.refl s) fun e he => .inl he)
    apply Post.bind
    refine (readGenBlock_spec c v i s).mono ?_
    rintro r s1 ⟨r1, hsect⟩
    cases r with
    | none => exact Post.pure ⟨r1, nofun⟩
    | some te =>
      refine Post.ite (fun _ => rest (te.2 :: acc) s1 r1 fun e' he' => ?_) (fun _ => rest acc s1 r1 fun e he => .inl he)
      rcases List.mem_cons.mp he' with rfl | h
      · exact .inr ⟨hsect _ _ rfl, hfree⟩
      · exact .inl h

end Adf
