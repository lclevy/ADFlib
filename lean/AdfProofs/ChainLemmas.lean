/-
  Hash chains (C02, C06): for any chain of entry blocks laid out anywhere on the disk of a healthy device,
  `adfNameToEntryBlk` returns the FIRST block of the chain whose name equals the requested one under the volume's case
  folding, and otherwise reports the tail of the chain; the walk of `adfCreateEntry` refuses a name the chain holds and
  otherwise hands back the chain's last entry.
-/
import AdfProofs.Effects
import AdfProofs.BlkLemmas
import AdfModel.Dir
namespace Adf

theorem EntryAt.wf {c : Cfg} {disk : Std.HashMap Nat Bytes} {v n : Nat} {b : Blk} (h : EntryAt c disk v n b) : BlkWF b :=
  h.sector ▸ blkOfBytes_wf _

/-- a hash chain laid out on the disk: `(sector, block)` pairs linked by `nextSameHash`, ending with 0 -/
def ChainOn (c : Cfg) (disk : Std.HashMap Nat Bytes) (v : Nat) : Nat → List (Nat × Blk) → Prop
  | n, [] => n = 0
  | n, (m, b) :: rest => n ≠ 0 ∧ m = n ∧ EntryAt c disk v n b ∧ ChainOn c disk v (b.w F_nextSameHash) rest

theorem ChainOn.ne_zero {c : Cfg} {disk : Std.HashMap Nat Bytes} {v n : Nat} {chain : List (Nat × Blk)}
    (h : ChainOn c disk v n chain) (hne : chain ≠ []) : n ≠ 0 := by
  cases chain with
  | nil => exact absurd rfl hne
  | cons hd rest => exact h.1

theorem ChainOn.entryAt_mem {c : Cfg} {disk : Std.HashMap Nat Bytes} {v : Nat} :
    ∀ {chain : List (Nat × Blk)} {n : Nat}, ChainOn c disk v n chain → ∀ e ∈ chain, EntryAt c disk v e.1 e.2 ∧ e.1 ≠ 0 := by
  intro chain
  induction chain with
  | nil => intro n _ e he; cases he
  | cons hd rest ih =>
    intro n ⟨hn0, hkn, hent, hrest⟩ e he
    rcases List.mem_cons.mp he with rfl | he
    · exact hkn ▸ ⟨hent, hn0⟩
    · exact ih hrest e he

theorem ChainOn.drop {c : Cfg} {disk : Std.HashMap Nat Bytes} {v : Nat} {x : Nat × Blk} {suf : List (Nat × Blk)}
    (pre : List (Nat × Blk)) {n : Nat} (h : ChainOn c disk v n (pre ++ x :: suf)) : ChainOn c disk v x.1 (x :: suf) := by
  induction pre generalizing n with
  | nil => exact h.2.1 ▸ h
  | cons e pre ih => exact ih h.2.2.2

theorem ChainOn.tail_of (c : Cfg) (disk : Std.HashMap Nat Bytes) (v : Nat) :
    ∀ (pre : List (Nat × Blk)) (n k : Nat) (blk : Blk) (post : List (Nat × Blk)),
      ChainOn c disk v n (pre ++ (k, blk) :: post) → ChainOn c disk v (blk.w F_nextSameHash) post :=
  fun pre _ _ _ _ h => (ChainOn.drop pre h).2.2.2

theorem ChainOn.replace_tail {c : Cfg} {disk disk' : Std.HashMap Nat Bytes} {v : Nat} {x : Nat × Blk}
    {suf new : List (Nat × Blk)} (pre : List (Nat × Blk)) {n : Nat} (h : ChainOn c disk v n (pre ++ x :: suf))
    (hpre : ∀ e ∈ pre, EntryAt c disk' v e.1 e.2) (hnew : ChainOn c disk' v x.1 new) : ChainOn c disk' v n (pre ++ new) := by
  induction pre generalizing n with
  | nil => exact h.2.1 ▸ hnew
  | cons e pre ih =>
    exact ⟨h.1, h.2.1, h.2.1 ▸ hpre e (List.mem_cons_self ..), ih h.2.2.2 fun e he => hpre e (List.mem_cons_of_mem _ he)⟩

/-- a chain whose members are all still valid on `disk'` is still a chain there (the links live in the blocks) -/
theorem ChainOn.transport (c : Cfg) (disk disk' : Std.HashMap Nat Bytes) (v : Nat) :
    ∀ (chain : List (Nat × Blk)) (n : Nat), ChainOn c disk v n chain → (∀ e ∈ chain, EntryAt c disk' v e.1 e.2) →
      ChainOn c disk' v n chain := by
  intro chain
  induction chain with
  | nil => exact fun _ h _ => h
  | cons hd rest ih =>
    intro n hch hall
    exact ⟨hch.1, hch.2.1, hch.2.1 ▸ hall hd (List.mem_cons_self ..),
      ih _ hch.2.2.2 fun e he => hall e (List.mem_cons_of_mem _ he)⟩

/-- cutting the entry `(n, b)` out of a chain by rewriting its predecessor's link -/
theorem ChainOn.splice (c : Cfg) (disk disk' : Std.HashMap Nat Bytes) (v p n : Nat) (prev prev' b : Blk) (post : List (Nat × Blk)) :
    ∀ (pre : List (Nat × Blk)) (n0 : Nat), ChainOn c disk v n0 (pre ++ (p, prev) :: (n, b) :: post) →
      (∀ e ∈ pre, EntryAt c disk' v e.1 e.2) → (∀ e ∈ post, EntryAt c disk' v e.1 e.2) →
      EntryAt c disk' v p prev' → prev'.w F_nextSameHash = b.w F_nextSameHash →
      ChainOn c disk' v n0 (pre ++ (p, prev') :: post) :=
  fun pre _ hch hpre hpost hp hl =>
    have hfrom := ChainOn.drop pre hch
    ChainOn.replace_tail pre hch hpre
      ⟨hfrom.1, rfl, hp, hl ▸ ChainOn.transport c disk disk' v post _ hfrom.2.2.2.2.2.2 hpost⟩

/-- appending the entry `(b, hdr)` to a chain by rewriting its last member's link -/
theorem ChainOn.rebuild (c : Cfg) (disk disk' : Std.HashMap Nat Bytes) (v m b : Nat) (last last' hdr : Blk) :
    ∀ (pre : List (Nat × Blk)) (n : Nat), ChainOn c disk v n (pre ++ [(m, last)]) →
      (∀ e ∈ pre, EntryAt c disk' v e.1 e.2) → EntryAt c disk' v m last' → last'.w F_nextSameHash = b → b ≠ 0 →
      EntryAt c disk' v b hdr → hdr.w F_nextSameHash = 0 →
      ChainOn c disk' v n (pre ++ [(m, last'), (b, hdr)]) :=
  fun pre _ hch hpre hm hl hb0 hb hl0 =>
    ChainOn.replace_tail pre hch hpre ⟨(ChainOn.drop pre hch).1, rfl, hm, hl.symm ▸ ⟨hb0, rfl, hb, hl0⟩⟩

/-- the comparison `adfNameToEntryBlk` applies to one entry -/
def nameMatches (intl : Bool) (name : Bytes) (b : Blk) : Prop :=
  min name.length 30 = b.nameLen ∧
  strToUpper intl (name.take (min name.length 30)) = strToUpper intl (b.bytes O_name (min name.length 30))

instance (intl : Bool) (name : Bytes) (b : Blk) : Decidable (nameMatches intl name b) := by
  unfold nameMatches; exact inferInstance

/-- the duplicate test of `adfCreateEntry` is the same comparison, written the other way round -/
theorem nameMatches_iff_dup (intl : Bool) (name : Bytes) (b : Blk) :
    nameMatches intl name b ↔ b.nameLen = min name.length 30 ∧
      strToUpper intl (b.bytes O_name b.nameLen) = strToUpper intl (name.take (min name.length 30)) := by
  unfold nameMatches
  constructor
  · rintro ⟨h1, h2⟩; exact ⟨h1.symm, by rw [h1] at h2 ⊢; exact h2.symm⟩
  · rintro ⟨h1, h2⟩; exact ⟨h1.symm, by rw [← h1] at h2 ⊢; exact h2.symm⟩

/-- reference semantics of the lookup over an abstract chain -/
def lookupSpec (intl : Bool) (name : Bytes) : List (Nat × Blk) → (upd : Nat) → (last : Blk) → Option Nat × Blk × Nat
  | [], upd, last => (none, last, upd)
  | (n, b) :: rest, upd, _ =>
    if nameMatches intl name b then (some n, b, upd)
    else match rest with
      | [] => (none, b, n)
      | _ :: _ => lookupSpec intl name rest n b

theorem lookupSpec_match {intl : Bool} {name : Bytes} {n : Nat} {b : Blk} {rest : List (Nat × Blk)} {upd : Nat} {last : Blk}
    (h : nameMatches intl name b) : lookupSpec intl name ((n, b) :: rest) upd last = (some n, b, upd) := by
  unfold lookupSpec; exact if_pos h
theorem lookupSpec_single {intl : Bool} {name : Bytes} {n : Nat} {b : Blk} {upd : Nat} {last : Blk}
    (h : ¬ nameMatches intl name b) : lookupSpec intl name [(n, b)] upd last = (none, b, n) := by
  rw [lookupSpec, if_neg h]
theorem lookupSpec_step {intl : Bool} {name : Bytes} {n : Nat} {b : Blk} {x : Nat × Blk} {r : List (Nat × Blk)} {upd : Nat}
    {last : Blk} (h : ¬ nameMatches intl name b) :
    lookupSpec intl name ((n, b) :: x :: r) upd last = lookupSpec intl name (x :: r) n b := by
  simp only [lookupSpec, if_neg h]

theorem take_min_length (l : Bytes) (k : Nat) : l.take (min l.length k) = l.take k := by
  rw [Nat.min_comm, ← List.take_eq_take_min]

theorem lookupSpec_none (intl : Bool) (name : Bytes) :
    ∀ (chain : List (Nat × Blk)) (upd : Nat) (last : Blk), chain ≠ [] →
      (∀ e ∈ chain, ¬ nameMatches intl name e.2) →
      lookupSpec intl name chain upd last = (none, (chain.getLast?.getD (0, last)).2, (chain.getLast?.getD (0, last)).1) := by
  intro chain
  induction chain with
  | nil => intro _ _ h; exact absurd rfl h
  | cons hd rest ih =>
    obtain ⟨n, b⟩ := hd
    intro upd last _ hno
    have hb : ¬ nameMatches intl name b := hno (n, b) (List.mem_cons_self ..)
    cases rest with
    | nil => exact lookupSpec_single hb
    | cons hd2 rest2 =>
      rw [lookupSpec_step hb, ih n b (List.cons_ne_nil _ _) fun e he => hno e (List.mem_cons_of_mem _ he),
        List.getLast?_cons_cons, List.getLast?_cons]
      rfl

theorem lookupSpec_not_found (intl : Bool) (name : Bytes) (chain : List (Nat × Blk)) (upd : Nat) (last : Blk)
    (hno : ∀ e ∈ chain, ¬ nameMatches intl name e.2) : (lookupSpec intl name chain upd last).1 = none := by
  cases chain with
  | nil => rfl
  | cons hd rest => rw [lookupSpec_none _ _ _ _ _ (List.cons_ne_nil _ _) hno]

theorem lookupSpec_first_match (intl : Bool) (name : Bytes) :
    ∀ (pre : List (Nat × Blk)) (n : Nat) (b : Blk) (post : List (Nat × Blk)) (upd : Nat) (last : Blk),
      (∀ e ∈ pre, ¬ nameMatches intl name e.2) → nameMatches intl name b →
      lookupSpec intl name (pre ++ (n, b) :: post) upd last = (some n, b, (pre.getLast?.map (·.1)).getD upd) := by
  intro pre
  induction pre with
  | nil => intro n b post upd last _ hm; exact lookupSpec_match hm
  | cons hd rest ih =>
    obtain ⟨m, bm⟩ := hd
    intro n b post upd last hno hm
    have hb : ¬ nameMatches intl name bm := hno (m, bm) (List.mem_cons_self ..)
    have := ih n b post m bm (fun e he => hno e (List.mem_cons_of_mem _ he)) hm
    cases rest with
    | nil => exact (lookupSpec_step hb).trans this
    | cons hd2 rest2 =>
      rw [List.getLast?_cons_cons, List.getLast?_cons]
      rw [List.getLast?_cons] at this
      exact (lookupSpec_step hb).trans this

theorem nameToEntryBlkLoop_lookup {F : Fault → Prop} (c : Cfg) (v : Nat) (intl : Bool) (name : Bytes)
    (chain : List (Nat × Blk)) (fuel n upd : Nat) (last : Blk) (s : St)
    (hne : chain ≠ []) (hlen : chain.length ≤ fuel) (hf : s.faultAt = none) (hch : ChainOn c s.disk v n chain) :
    Post F c (nameToEntryBlkLoop v intl name fuel n upd) s (fun r s' =>
      r = lookupSpec intl name chain upd last ∧ Reads s s') := by
  refine Post.and ?_ (Post.reads (nameToEntryBlkLoop_reads v intl name fuel n upd))
  induction chain generalizing fuel n upd last s with
  | nil => exact absurd rfl hne
  | cons hd rest ih =>
    obtain ⟨m, b⟩ := hd
    obtain ⟨hn0, rfl, hent, hrest⟩ := hch
    cases fuel with
    | zero => exact absurd hlen (Nat.not_succ_le_zero _)
    | succ fuel =>
      unfold nameToEntryBlkLoop
      apply Post.bind; apply Post.readEntryAt hf hent
      intro s' r
      refine Post.ite (fun h => absurd rfl h) (fun _ => ?_)
      refine Post.ite (fun hmatch => ?_) (fun hmatch => ?_)
      · exact Post.pure (lookupSpec_match hmatch).symm
      · cases rest with
        | nil => exact Post.ite (fun _ => Post.pure (lookupSpec_single hmatch).symm) (fun h => absurd hrest h)
        | cons hd2 rest2 =>
          refine Post.ite (fun h => absurd h hrest.1) (fun _ => ?_)
          rw [lookupSpec_step hmatch]
          exact ih fuel _ m b s' (List.cons_ne_nil _ _) (Nat.le_of_succ_le_succ hlen) (r.faultAt.trans hf) (r.disk ▸ hrest)

theorem nameToEntryBlk_lookup {F : Fault → Prop} (c : Cfg) (v : Nat) (ht : Blk) (name : Bytes) (chain : List (Nat × Blk))
    (s : St) (hf : s.faultAt = none)
    (hch : ChainOn c s.disk v (ht.hash (hashName (useIntl (c.vol v).dosType) name)) chain)
    (hlen : chain.length ≤ (c.vol v).lastBlock - (c.vol v).firstBlock + 1) :
    Post F c (nameToEntryBlk v ht name) s (fun r s' =>
      r = lookupSpec (useIntl (c.vol v).dosType) name chain 0 zeroBlk ∧ Reads s s') := by
  unfold nameToEntryBlk
  apply Post.bind; apply Post.getVolCfg
  cases chain with
  | nil => exact Post.ite (fun _ => Post.pure ⟨rfl, .refl s⟩) (fun h => absurd hch h)
  | cons hd rest =>
    exact Post.ite (fun h => absurd h hch.1) fun _ =>
      nameToEntryBlkLoop_lookup c v _ name _ _ _ 0 zeroBlk s (List.cons_ne_nil _ _) hlen hf hch

theorem createEntryWalk_spec {F : Fault → Prop} (c : Cfg) (v : Nat) (intl : Bool) (name : Bytes)
    (chain : List (Nat × Blk)) (fuel n : Nat) (s : St)
    (hne : chain ≠ []) (hlen : chain.length ≤ fuel) (hf : s.faultAt = none) (hch : ChainOn c s.disk v n chain) :
    Post F c (createEntryWalk v intl name fuel n) s (fun r s' =>
      (((∃ e ∈ chain, nameMatches intl name e.2) → r = none) ∧
       ((∀ e ∈ chain, ¬ nameMatches intl name e.2) → r = chain.getLast?.map (·.2))) ∧ Reads s s') := by
  refine Post.and ?_ (Post.reads (createEntryWalk_reads v intl name fuel n))
  induction chain generalizing fuel n s with
  | nil => exact absurd rfl hne
  | cons hd rest ih =>
    obtain ⟨m, b⟩ := hd
    obtain ⟨hn0, rfl, hent, hrest⟩ := hch
    cases fuel with
    | zero => exact absurd hlen (Nat.not_succ_le_zero _)
    | succ fuel =>
      unfold createEntryWalk
      apply Post.bind; apply Post.readEntryAt hf hent
      intro s1 r
      refine Post.ite (fun h => absurd rfl h) (fun _ => ?_)
      refine Post.ite (fun hdup => ?_) (fun hdup => ?_)
      · have hmatch := (nameMatches_iff_dup intl name b).mpr hdup
        exact Post.pure ⟨fun _ => rfl, fun hno => absurd hmatch (hno _ List.mem_cons_self)⟩
      have hmatch : ¬ nameMatches intl name b := fun h => hdup ((nameMatches_iff_dup intl name b).mp h)
      cases rest with
      | nil =>
        refine Post.ite (fun _ => Post.pure ⟨?_, fun _ => rfl⟩) (fun h => absurd hrest h)
        rintro ⟨e, he, hme⟩
        cases List.mem_singleton.mp he
        exact absurd hme hmatch
      | cons hd2 rest2 =>
        refine Post.ite (fun h => absurd h hrest.1) (fun _ => ?_)
        refine (ih fuel _ s1 (List.cons_ne_nil _ _) (Nat.le_of_succ_le_succ hlen) (r.faultAt.trans hf)
          (r.disk ▸ hrest)).mono ?_
        rintro r' _ ⟨h1, h2⟩
        refine ⟨?_, fun hno => ?_⟩
        · rintro ⟨e, he, hme⟩
          rcases List.mem_cons.mp he with rfl | he
          · exact absurd hme hmatch
          · exact h1 ⟨e, he, hme⟩
        rw [h2 fun e he => hno e (List.mem_cons_of_mem _ he), List.getLast?_cons_cons]

end Adf
