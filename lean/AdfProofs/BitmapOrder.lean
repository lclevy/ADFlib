/-
  `adfUpdateBitmap`, for every volume state, every bitmap table and every fault schedule (`updateBitmap_spec`).  Its write
  order (C18, second sentence): the on-disk bitmap-valid flag is cleared before the first bitmap page is rewritten and set
  again only after the last.  And it only writes the free map out: whatever is on the disk, whichever write is refused or
  faults, the in-memory table the allocator works from is afterwards what it was.
-/
import AdfProofs.BlockIO
import AdfProofs.BlkLemmas
import AdfModel.Bitmap
namespace Adf

/-- the sector image `adfWriteRootBlock` produces from the struct `r` -/
def rootImage (r : Blk) : Bytes := bytesOfBlk (withSum (rootFixed r) F_checkSum)

/-- the bitmap-valid flag as it is in the bytes of a root-block sector image -/
def flagOfSector (data : Bytes) : Nat := (blkOfBytes data).w F_bmFlag

theorem rootImage_flag (r : Blk) (h : BlkWF r) : flagOfSector (rootImage r) = r.w F_bmFlag := by
  unfold flagOfSector rootImage
  rw [blkOfBytes_bytesOfBlk (withSum_wf (rootFixed_wf h)), withSum_w_ne (by decide),
    rootFixed_w _ _ (by decide)]

/-- a write of one bitmap page image (checksum in word 0) to some sector of volume `v` -/
def IsPageWr (v : Nat) (e : Ev) : Prop :=
  ∃ sec pg st, e = Ev.wr (some v) sec 512 (bytesOfBlk (withSum pg 0)) st

/-- a write of the root block of volume `v` whose struct has `bmFlag = flag` -/
def IsRootWr (c : Cfg) (v flag : Nat) (e : Ev) : Prop :=
  ∃ r st, e = Ev.wr (some v) (vsect c v (c.vol v).rootBlock) 512 (rootImage r) st ∧ BlkWF r ∧ r.w F_bmFlag = flag

theorem forall_mem_tail_concat {α : Type} {p : α → Prop} {l : List α} {e : α} (hl : ∀ x ∈ l.tail, p x) (he : p e) :
    ∀ x ∈ (l ++ [e]).tail, p x := by
  cases l with
  | nil => exact List.forall_mem_nil _
  | cons a t => exact List.forall_mem_append.mpr ⟨hl, List.forall_mem_singleton.mpr he⟩

/-- `pages` is newest first: only the newest page write may have failed -/
theorem updateBitmapPages_order {F : Fault → Prop} (c : Cfg) (v : Nat) :
    ∀ (is : List Nat) (s : St), Post F c (updateBitmapPages v is) s (fun rc s' =>
      (s'.mem.vol v).bitmapTable = (s.mem.vol v).bitmapTable ∧
      ∃ pages, Wrote s s' pages ∧ (∀ e ∈ pages, IsPageWr v e) ∧
        (rc = rcOK → ∀ e ∈ pages, e.status = 0) ∧ (∀ e ∈ pages.tail, e.status = 0)) := by
  intro is
  induction is with
  | nil => intro s; exact Post.pure ⟨rfl, [], .refl s, List.forall_mem_nil _, fun _ => List.forall_mem_nil _, List.forall_mem_nil _⟩
  | cons i is ih =>
    intro s
    unfold updateBitmapPages
    apply Post.bind; apply Post.getVolMem
    refine Post.ite (fun _ => ?_) (fun _ => ih s)
    apply Post.bind; apply Post.write
    intro rc s1 w
    have hpage : ∀ st, IsPageWr v (Ev.wr (some v) (vsect c v ((s.mem.vol v).bitmapBlocks.getD i 0)) 512
        (bytesOfBlk (withSum ((s.mem.vol v).bitmapTable.getD i zeroBlk) 0)) st) := fun st => ⟨_, _, st, rfl⟩
    refine Post.ite (fun hrc => Post.pure ⟨by rw [w.kept.mem], ?_⟩) (fun hrc => ?_)
    · rcases w.wrote with ⟨hw, _⟩ | ⟨st, hw, _⟩
      · exact ⟨[], hw, List.forall_mem_nil _, fun _ => List.forall_mem_nil _, List.forall_mem_nil _⟩
      · exact ⟨[_], hw, List.forall_mem_singleton.mpr (hpage st), fun h => absurd h hrc, List.forall_mem_nil _⟩
    · apply Post.bind; apply Post.setVolMem
      refine (ih _).mono ?_
      rintro rc2 s2 ⟨htbl, pages, hw2, hp, hall, htl⟩
      exact ⟨htbl.trans (by rw [Mem.vol_setVol]), pages ++ [_], (w.wrote_ok (Classical.not_not.mp hrc)).trans hw2,
        List.forall_mem_append.mpr ⟨hp, List.forall_mem_singleton.mpr (hpage 0)⟩,
        fun h => List.forall_mem_append.mpr ⟨hall h, List.forall_mem_singleton.mpr rfl⟩,
        forall_mem_tail_concat htl rfl⟩

/-- the order of the writes `adfUpdateBitmap` performs (newest first, like the trace) -/
def BmOrder (c : Cfg) (v : Nat) (W : List Ev) : Prop :=
  W = [] ∨ ∃ e0 rest, W = rest ++ [e0] ∧ IsRootWr c v BM_INVALID e0 ∧ (e0.status ≠ 0 → rest = []) ∧
    ∃ pages tail, rest = tail ++ pages ∧ (∀ e ∈ pages, IsPageWr v e) ∧ (∀ e ∈ pages.tail, e.status = 0) ∧
      (tail = [] ∨ ∃ e1, tail = [e1] ∧ IsRootWr c v BM_VALID e1 ∧ ∀ e ∈ pages, e.status = 0)

theorem updateBitmap_spec {F : Fault → Prop} (c : Cfg) (v : Nat) (s : St) :
    Post F c (updateBitmap v) s (fun _ s' => (s'.mem.vol v).bitmapTable = (s.mem.vol v).bitmapTable ∧
      ∃ W, writesOf s'.trace = W ++ writesOf s.trace ∧ BmOrder c v W) := by
  unfold updateBitmap
  apply Post.bind; apply Post.getVolCfg
  apply Post.bind; apply Post.readRootBlock
  intro rc root s1 r1 hroot
  refine Post.ite (fun _ => Post.pure ⟨by rw [r1.mem], [], r1.wrote, .inl rfl⟩) (fun hrc => ?_)
  have hwf : BlkWF root := hroot (Classical.not_not.mp hrc) ▸ blkOfBytes_wf _
  apply Post.bind; apply Post.writeRootBlock
  intro rc1 s2 w2
  have hroot0 : ∀ st, IsRootWr c v BM_INVALID
      (Ev.wr (some v) (vsect c v (c.vol v).rootBlock) 512 (rootImage (root.setW F_bmFlag BM_INVALID)) st) := fun st =>
    ⟨_, st, rfl, setW_wf hwf, Blk.w_setW_same (by rw [hwf.1]; decide) (by decide)⟩
  have hm2 : s2.mem = s.mem := w2.kept.mem.trans r1.mem
  refine Post.ite (fun _ => Post.pure ⟨by rw [hm2], ?_⟩) (fun hrc1 => ?_)
  · rcases w2.wrote with ⟨hw2, _⟩ | ⟨st, hw2, _⟩
    · exact ⟨[], r1.wrote.trans hw2, .inl rfl⟩
    · exact ⟨[_], r1.wrote.trans hw2, .inr ⟨_, [], rfl, hroot0 st, fun _ => rfl, [], [], rfl, List.forall_mem_nil _, List.forall_mem_nil _, .inl rfl⟩⟩
  have hw2 := w2.wrote_ok (Classical.not_not.mp hrc1)
  apply Post.bind; apply Post.getVolMem
  apply Post.bind
  refine (updateBitmapPages_order c v _ s2).mono ?_
  rintro rc2 s3 ⟨htbl, pages, hw3, hp, hall, htl⟩
  have hm3 : (s3.mem.vol v).bitmapTable = (s.mem.vol v).bitmapTable := by rw [htbl, hm2]
  -- after the pages: nothing more, or the write that sets the flag
  have order : ∀ tail, (tail = [] ∨ ∃ e1, tail = [e1] ∧ IsRootWr c v BM_VALID e1 ∧ ∀ e ∈ pages, e.status = 0) →
      BmOrder c v (tail ++ pages ++ [_]) := fun tail ht =>
    .inr ⟨_, tail ++ pages, rfl, hroot0 0, fun h => absurd rfl h, pages, tail, rfl, hp, htl, ht⟩
  have hw13 := (r1.wrote.trans hw2).trans hw3
  refine Post.ite (fun _ => Post.pure ⟨hm3, _, hw13, order [] (.inl rfl)⟩) (fun hrc2 => ?_)
  apply Post.bind; apply Post.now
  apply Post.bind; apply Post.writeRootBlock
  intro rc3 s4 w4
  refine Post.pure ⟨by rw [w4.kept.mem, hm3], ?_⟩
  rcases w4.wrote with ⟨hw4, _⟩ | ⟨st3, hw4, _⟩
  · exact ⟨_, hw13.trans hw4, order [] (.inl rfl)⟩
  · refine ⟨_, hw13.trans hw4, order [_] (.inr ⟨_, rfl, ⟨_, st3, rfl, ?_, ?_⟩, hall (Classical.not_not.mp hrc2)⟩)⟩
    · exact setW_wf (setW_wf (setW_wf (setW_wf (rootFixed_wf (setW_wf hwf)))))
    · rw [Blk.w_setW_ne (by decide), Blk.w_setW_ne (by decide), Blk.w_setW_ne (by decide)]
      exact Blk.w_setW_same (by rw [(rootFixed_wf (setW_wf hwf)).1]; decide) (by decide)

theorem updateBitmap_order {F : Fault → Prop} (c : Cfg) (v : Nat) (s : St) :
    Post F c (updateBitmap v) s (fun _ s' => ∃ W, writesOf s'.trace = W ++ writesOf s.trace ∧ BmOrder c v W) :=
  (updateBitmap_spec c v s).mono fun _ _ h => h.2

end Adf
