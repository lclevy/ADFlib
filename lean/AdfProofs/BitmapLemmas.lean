/-
  The arithmetic of the bitmap (rounding up to whole pages, the page / word / bit coordinates of a block), the free map
  after `bmSetWord`, and the scan of `adfGetFreeBlocks` as a list.
-/
import AdfProofs.BlkLemmas
import AdfModel.Bitmap
namespace Adf

/-! ### rounding a quotient up: the C idiom `a / b + (a % b != 0)` -/

theorem ceilDiv_succ (m b : Nat) : (m + 1) / b + (if (m + 1) % b ≠ 0 then 1 else 0) = m / b + 1 := by
  rw [Nat.succ_div]
  by_cases h : (m + 1) % b = 0
  · rw [if_pos (Nat.dvd_of_mod_eq_zero h), if_neg (not_not_intro h)]
  · rw [if_neg (mt Nat.mod_eq_zero_of_dvd h), if_pos h]

theorem ceilDiv (a b : Nat) (hb : 0 < b) : a / b + (if a % b ≠ 0 then 1 else 0) = (a + (b - 1)) / b := by
  cases a with
  | zero => rw [Nat.zero_add, Nat.div_eq_of_lt (Nat.sub_lt hb Nat.one_pos), Nat.zero_div, Nat.zero_mod]; rfl
  | succ m => rw [ceilDiv_succ, ← Nat.add_div_right m hb, Nat.add_assoc, Nat.add_sub_cancel' hb]

theorem nBlock2bitmapSize_succ (m : Nat) : nBlock2bitmapSize (m + 1) = m / 4064 + 1 := ceilDiv_succ m 4064

/-- the page of every mapped block exists -/
theorem div_lt_nBlock2bitmapSize {s n : Nat} (h : s < n) : s / BM_PAGE_BLOCKS < nBlock2bitmapSize n := by
  cases n with
  | zero => cases h
  | succ m => rw [nBlock2bitmapSize_succ]; exact Nat.lt_succ_of_le (Nat.div_le_div_right (Nat.le_of_lt_succ h))

theorem testBit_ones32 (k : Nat) : (4294967295 : Nat).testBit k = decide (k < 32) :=
  Nat.testBit_two_pow_sub_one 32 k

/-- bit `k` of the word `bmSetWord` stores: bit `j` of `w` set (`f`) or cleared, truncated to 32 bits by `Blk.setW` -/
theorem testBit_setBit (w j k : Nat) (f : Bool) (hk : k < 32) :
    ((if f then w ||| 2 ^ j else w &&& (4294967295 ^^^ 2 ^ j)) % 4294967296).testBit k
      = if j = k then f else w.testBit k := by
  rw [show (4294967296 : Nat) = 2 ^ 32 from rfl, Nat.testBit_mod_two_pow]
  cases f <;> by_cases h : j = k <;>
    simp [Nat.testBit_or, Nat.testBit_and, Nat.testBit_xor, testBit_ones32, h, hk]

/-- page, word and bit of block `n` in the bitmap table -/
def coord (n : Nat) : Nat × Nat × Nat := ((n - 2) / BM_PAGE_BLOCKS, 1 + ((n - 2) / 32) % 127, (n - 2) % 32)

/-- page, word and bit are the digits of `s = n - 2` in the mixed radix 4064 = 127 · 32 -/
theorem coord_sum (s : Nat) : 4064 * (s / 4064) + (s % 32 + 32 * (s / 32 % 127)) = s := by
  rw [← Nat.mod_mul (a := 32) (b := 127)]; exact Nat.div_add_mod s 4064

/-- no two blocks of the volume share a bit; the boot blocks 0 and 1 are not mapped (`n - 2` sends them to the bit of
    block 2), hence `2 ≤` -/
theorem coord_injective (a b : Nat) (ha : 2 ≤ a) (hb : 2 ≤ b) (h : coord a = coord b) : a = b := by
  unfold coord BM_PAGE_BLOCKS at h
  simp only [Prod.mk.injEq, Nat.add_left_cancel_iff] at h
  have := coord_sum (a - 2)
  rw [h.1, h.2.1, h.2.2, coord_sum] at this
  rw [← Nat.sub_add_cancel ha, ← Nat.sub_add_cancel hb, this]

/-- well-formedness of an in-memory table: every page has 128 words below 2^32 -/
def TableWF (tbl : List Blk) : Prop := ∀ p ∈ tbl, p.length = 128 ∧ ∀ w ∈ p, w < 4294967296

theorem bmSetWord_wf (tbl : List Blk) (n : Nat) (f : Bool) (h : TableWF tbl) : TableWF (bmSetWord tbl n f) := by
  intro p hp
  by_cases hpg : (n - 2) / BM_PAGE_BLOCKS < tbl.length
  · rcases List.mem_or_eq_of_mem_set hp with h1 | rfl
    · exact h p h1
    · exact setW_wf (h _ (List.getElem_eq_getD (h := hpg) [] ▸ List.getElem_mem hpg))
  · -- a page outside the table: `List.set` changes nothing
    rw [bmSetWord, List.set_eq_of_length_le (Nat.le_of_not_lt hpg)] at hp
    exact h p hp

theorem bmSetWord_length (tbl : List Blk) (n : Nat) (f : Bool) : (bmSetWord tbl n f).length = tbl.length :=
  List.length_set

/-- the free map after one `adfSetBlockFree` / `adfSetBlockUsed` -/
theorem bmIsFree_bmSetWord (tbl : List Blk) (n m : Nat) (f : Bool) (hwf : TableWF tbl)
    (hpg : (n - 2) / BM_PAGE_BLOCKS < tbl.length) :
    bmIsFree (bmSetWord tbl n f) m = if coord n = coord m then f else bmIsFree tbl m := by
  have hwi : 1 + (n - 2) / 32 % 127 < (tbl.getD ((n - 2) / BM_PAGE_BLOCKS) []).length := by
    rw [← List.getElem_eq_getD (h := hpg), (hwf _ (List.getElem_mem hpg)).1, Nat.add_comm]
    exact Nat.succ_lt_succ (Nat.mod_lt _ (by decide))
  unfold bmIsFree bmSetWord coord
  simp only [Prod.mk.injEq]
  by_cases hp : (n - 2) / BM_PAGE_BLOCKS = (m - 2) / BM_PAGE_BLOCKS
  · rw [← hp, List.getD_eq_getElem?_getD, List.getElem?_set_self hpg, Option.getD_some]
    by_cases hw : 1 + (n - 2) / 32 % 127 = 1 + (m - 2) / 32 % 127
    · rw [← hw, Blk.w_setW_self hwi, testBit_setBit _ _ _ _ (Nat.mod_lt _ (by decide))]
      simp only [true_and]
    · rw [Blk.w_setW_ne hw, if_neg (fun h => hw h.2.1)]
  · rw [List.getD_eq_getElem?_getD, List.getElem?_set_ne hp, ← List.getD_eq_getElem?_getD, if_neg (fun h => hp h.1)]

theorem bmIsFree_set_same (tbl : List Blk) (n : Nat) (f : Bool) (hwf : TableWF tbl)
    (hpg : (n - 2) / BM_PAGE_BLOCKS < tbl.length) : bmIsFree (bmSetWord tbl n f) n = f := by
  rw [bmIsFree_bmSetWord tbl n n f hwf hpg, if_pos rfl]

theorem bmIsFree_set_other (tbl : List Blk) (n m : Nat) (f : Bool) (hwf : TableWF tbl) (hn : 2 ≤ n) (hm : 2 ≤ m)
    (hne : n ≠ m) (hpg : (n - 2) / BM_PAGE_BLOCKS < tbl.length) :
    bmIsFree (bmSetWord tbl n f) m = bmIsFree tbl m := by
  rw [bmIsFree_bmSetWord tbl n m f hwf hpg, if_neg (fun h => hne (coord_injective n m hn hm h))]

/-- the sequence of blocks the scan visits (no test, no count) -/
def scanSeq (root lastRel : Nat) : (fuel block : Nat) → List Nat
  | 0, _ => []
  | fuel+1, block =>
    block :: (if block = lastRel then scanSeq root lastRel fuel 2
              else if block + 1 = root then []
              else scanSeq root lastRel fuel (block + 1))

theorem scanFree_eq (tbl : List Blk) (root lastRel : Nat) (fuel block want : Nat) :
    scanFree tbl root lastRel fuel block want
      = ((scanSeq root lastRel fuel block).filter (bmIsFree tbl)).take want := by
  induction fuel generalizing block want with
  | zero => cases want <;> simp [scanFree, scanSeq]
  | succ fuel ih =>
    cases want with
    | zero => simp [scanFree]
    | succ want =>
      rw [scanFree, scanSeq]
      by_cases hfree : bmIsFree tbl block = true
      · simp only [hfree, ↓reduceIte, List.filter_cons_of_pos, List.take_succ_cons]
        congr 1
        split
        · exact ih 2 want
        · split
          · simp
          · exact ih (block + 1) want
      · simp only [hfree, Bool.false_eq_true, ↓reduceIte]
        rw [List.filter_cons_of_neg (by simpa using hfree)]
        split
        · exact ih 2 (want + 1)
        · split
          · simp
          · exact ih (block + 1) (want + 1)

/-- a run of `k` steps that meets neither the wrap (at `lastRel`) nor the stop (before `root`) -/
theorem scanSeq_run {root lastRel : Nat} : ∀ (k b fuel : Nat), b + k ≤ lastRel → (b + k < root ∨ root ≤ b) →
    scanSeq root lastRel (fuel + k) b = List.range' b k ++ scanSeq root lastRel fuel (b + k) := by
  intro k
  induction k with
  | zero => intro b fuel _ _; rfl
  | succ k ih =>
    intro b fuel hl hr
    rw [← Nat.add_assoc, scanSeq, if_neg (by omega), if_neg (by omega), List.range'_succ, List.cons_append,
      ih (b + 1) fuel (by omega) (by omega), Nat.add_right_comm b 1 k, Nat.add_assoc b k 1]

/-- the circular order of the volume's blocks as the allocator sees it -/
def circ (root lastRel : Nat) : List Nat := List.range' root (lastRel - root + 1) ++ List.range' 2 (root - 2)

theorem scanSeq_full (root lastRel fuel : Nat) (hroot : 2 < root) (hr : root ≤ lastRel) (hf : lastRel ≤ fuel) :
    scanSeq root lastRel fuel root = circ root lastRel := by
  obtain ⟨r, rfl⟩ := Nat.exists_eq_add_of_le' hroot
  obtain ⟨j, rfl⟩ := Nat.exists_eq_add_of_le hr
  obtain ⟨f, rfl⟩ := Nat.exists_eq_add_of_le' hf
  -- `j` steps up to the last block, the wrap to 2, `r` steps up to `root - 1`, the stop
  rw [show f + (r + 3 + j) = f + 1 + 1 + r + 1 + j by omega, scanSeq_run j _ _ (Nat.le_refl _) (.inr (Nat.le_refl _)),
    scanSeq, if_pos rfl, scanSeq_run r 2 _ (by omega) (.inl (by omega)), scanSeq, if_neg (by omega), if_pos (by omega)]
  unfold circ
  rw [Nat.add_sub_cancel_left, List.range'_1_concat, List.append_assoc, show r + 3 - 2 = r + 1 from rfl, List.range'_1_concat]
  rfl

theorem mem_circ (root lastRel b : Nat) (hroot : 2 < root) (hr : root ≤ lastRel) :
    b ∈ circ root lastRel ↔ 2 ≤ b ∧ b ≤ lastRel := by
  unfold circ
  rw [List.mem_append, List.mem_range'_1, List.mem_range'_1, ← Nat.add_assoc, Nat.add_sub_cancel' hr,
    Nat.add_sub_cancel' (Nat.le_of_lt hroot)]
  omega

theorem circ_nodup (root lastRel : Nat) (hroot : 2 < root) : (circ root lastRel).Nodup := by
  unfold circ
  rw [List.nodup_append]
  refine ⟨List.nodup_range' .., List.nodup_range' .., fun a ha b hb => ?_⟩
  rw [List.mem_range'_1] at ha hb
  rw [Nat.add_sub_cancel' (Nat.le_of_lt hroot)] at hb
  exact Nat.ne_of_gt (Nat.lt_of_lt_of_le hb.2 ha.1)

/-- what the scan of `adfGetFreeBlocks` returns after one lap from the root: the first `nb` free blocks of the
    circular order, or all of them when there are fewer -/
theorem scanFree_circ (tbl : List Blk) (root last fuel nb : Nat) (hroot : 2 < root) (hr : root ≤ last) (hf : last ≤ fuel) :
    scanFree tbl root last fuel root nb = ((circ root last).filter (bmIsFree tbl)).take nb := by
  rw [scanFree_eq, scanSeq_full root last fuel hroot hr hf]

theorem scanFree_length (tbl : List Blk) (root last fuel nb : Nat) (hroot : 2 < root) (hr : root ≤ last) (hf : last ≤ fuel) :
    (scanFree tbl root last fuel root nb).length = min nb ((circ root last).filter (bmIsFree tbl)).length := by
  rw [scanFree_circ tbl root last fuel nb hroot hr hf, List.length_take]

end Adf
