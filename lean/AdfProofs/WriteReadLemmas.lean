/-
  What the library writes, it reads back (C02, C03): a header block stored by one of the entry writers is a block
  `adfReadEntryBlock` accepts, so the premise `EntryAt` of the chain theorems (C02, C06) is produced by the library itself;
  the writers' normalisers keep the hash table, the name area and the chain link of the struct they are given; and the
  name bytes `adfCreateFile` / `adfCreateDir` store are the name bytes a lookup compares (proved at byte level).
-/
import AdfProofs.ChainLemmas
import AdfProps.C03
namespace Adf

theorem entryAt_after_write (c : Cfg) (disk : Std.HashMap Nat Bytes) (v n : Nat) (e : Blk) (hr : Readable c v n)
    (hwf : BlkWF e) (hty : e.w F_type = T_HEADER) :
    EntryAt c (disk.insert (vsect c v n) (padTo (bytesOfBlk (withSum e F_checkSum)) 512)) v n (withSum e F_checkSum) := by
  have hwf' := withSum_wf (k := F_checkSum) hwf
  have hlen := C03.C03_block_length _ hwf'.1
  refine ⟨hr, ?_, (C03.C03_checksum_verifies e F_checkSum (by rw [hwf.1]; decide)).symm,
    (withSum_w_ne (by decide)).trans hty⟩
  rw [Std.HashMap.getD_insert_self, padTo_id _ _ hlen, List.take_of_length_le (Nat.le_of_eq hlen)]
  exact blkOfBytes_bytesOfBlk hwf'

theorem EntryAt.insert_other {c : Cfg} {disk : Std.HashMap Nat Bytes} {v n : Nat} {b : Blk} (h : EntryAt c disk v n b)
    {p : Nat} (x : Bytes) (hp : p ≠ vsect c v n) : EntryAt c (disk.insert p x) v n b := by
  refine ⟨h.1, ?_, h.2.2⟩
  rw [Std.HashMap.getD_insert, if_neg (by simpa using hp)]
  exact h.2.1

/-- from the disk `disk` to state `s'` block `n` of volume `v` — and nothing else — was rewritten, with a valid entry
    block that satisfies `P`; the device is still without fault schedule -/
def Rewrote (c : Cfg) (v n : Nat) (P : Blk → Prop) (disk : Std.HashMap Nat Bytes) (s' : St) : Prop :=
  s'.faultAt = none ∧ ∃ x e, s'.disk = disk.insert (vsect c v n) x ∧ EntryAt c s'.disk v n e ∧ P e

section
variable {c : Cfg} {v n : Nat} {P : Blk → Prop} {disk : Std.HashMap Nat Bytes} {s s' : St}

theorem Rewrote.other (h : Rewrote c v n P disk s') {m : Nat} {e : Blk} (he : EntryAt c disk v m e)
    (hne : vsect c v n ≠ vsect c v m) : EntryAt c s'.disk v m e :=
  let ⟨_, x, _, hd, _⟩ := h
  hd ▸ he.insert_other x hne

theorem WriteStep.rewrote {e : Blk} {rc : RC} (w : WriteStep c v n (bytesOfBlk (withSum e F_checkSum)) s rc s')
    (hf : s.faultAt = none) (hr : Readable c v n) (hrw : (c.vol v).readOnly = false) (hwf : BlkWF e)
    (hty : e.w F_type = T_HEADER) (hP : P (withSum e F_checkSum)) : rc = rcOK ∧ Rewrote c v n P s.disk s' := by
  have hk := w.healthy hf hr hrw
  have hd := (w.ok hk).1
  exact ⟨hk, w.kept.faultAt.trans hf, _, _, hd, hd ▸ entryAt_after_write c s.disk v n e hr hwf hty, hP⟩

end

/-- **what `adfWriteEntryBlock` stores is a block `adfReadEntryBlock` accepts** -/
theorem writeEntryBlock_healthy (c : Cfg) (v n : Nat) (e : Blk) (s : St) (hf : s.faultAt = none) (hr : Readable c v n)
    (hrw : (c.vol v).readOnly = false) (hwf : BlkWF e) (hty : e.w F_type = T_HEADER) :
    ∃ s', run c (writeEntryBlock v n e) s = (.ok rcOK, s') ∧ s'.mem = s.mem ∧
      Rewrote c v n (· = withSum e F_checkSum) s.disk s' := by
  obtain ⟨rc, s', hrun, w⟩ := run_volWrite c v n (bytesOfBlk (withSum e F_checkSum)) s
  obtain ⟨rfl, hR⟩ := w.rewrote (P := (· = withSum e F_checkSum)) hf hr hrw hwf hty rfl
  exact ⟨s', hrun, w.kept.mem, hR⟩

/-- the name area of an entry block: the words holding bytes 432..463 (`nameLen` and the 30 name bytes, with padding) -/
def SameNameArea (b b' : Blk) : Prop := ∀ k, 108 ≤ k → k ≤ 115 → b'.w k = b.w k

theorem SameNameArea.byte {b b' : Blk} (h : SameNameArea b b') (off : Nat) (h1 : 432 ≤ off) (h2 : off < 464) :
    b'.byte off = b.byte off := by
  unfold Blk.byte
  rw [h (off / 4) ((Nat.le_div_iff_mul_le (by decide)).mpr h1) (Nat.le_of_lt_succ (Nat.div_lt_of_lt_mul h2))]

theorem SameNameArea.bytes {b b' : Blk} (h : SameNameArea b b') (len : Nat) (hlen : len ≤ 30) :
    b'.bytes O_name len = b.bytes O_name len :=
  List.map_congr_left fun i hi => congrArg UInt8.ofNat <| h.byte _ (Nat.le_trans (by decide) (Nat.le_add_right O_name i))
    (Nat.lt_of_lt_of_le (Nat.add_lt_add_left (Nat.lt_of_lt_of_le (List.mem_range.mp hi) hlen) O_name) (by decide))

theorem nameMatches_of_sameNameArea (intl : Bool) (name : Bytes) (b b' : Blk) (h : SameNameArea b b') :
    nameMatches intl name b' ↔ nameMatches intl name b := by
  unfold nameMatches Blk.nameLen
  rw [h.byte O_nameLen (by decide) (by decide), h.bytes _ (Nat.min_le_right _ _)]

theorem SameNameArea.trans {a b b' : Blk} (h : SameNameArea a b) (h' : SameNameArea b b') : SameNameArea a b' :=
  fun k h1 h2 => (h' k h1 h2).trans (h k h1 h2)

theorem SameNameArea.setW (b : Blk) (k v : Nat) (hk : k < 108 ∨ 115 < k) : SameNameArea b (b.setW k v) :=
  fun _ h1 h2 => Blk.w_setW_ne fun h =>
    hk.elim (fun hk => Nat.not_le_of_lt hk (h ▸ h1)) (fun hk => Nat.not_le_of_lt hk (h ▸ h2))

/-- `e'` stands for what a writer's fix-up makes of `e` (`EntryFix.keeps`, `EntryFix.name`) -/
theorem written_keeps {e e' : Blk} (hl : e'.w F_nextSameHash = e.w F_nextSameHash) (hn : SameNameArea e e') :
    (withSum e' F_checkSum).w F_nextSameHash = e.w F_nextSameHash ∧ SameNameArea e (withSum e' F_checkSum) :=
  ⟨(withSum_w_ne (by decide)).trans hl,
    hn.trans fun _ h1 _ => withSum_w_ne (Nat.ne_of_lt (Nat.lt_of_lt_of_le (by decide) h1))⟩

theorem relinked {e e' : Blk} {x : Nat} (hwf : BlkWF e) (hx : x < 4294967296)
    (hl : e'.w F_nextSameHash = (e.setW F_nextSameHash x).w F_nextSameHash) (hn : SameNameArea (e.setW F_nextSameHash x) e') :
    (withSum e' F_checkSum).w F_nextSameHash = x ∧ SameNameArea e (withSum e' F_checkSum) :=
  have hkeep := written_keeps hl hn
  ⟨hkeep.1.trans (Blk.w_setW_same (hwf.1 ▸ by decide) hx), (SameNameArea.setW e _ _ (.inr (by decide))).trans hkeep.2⟩

/-- the "fix-ups" of the two writers `adfCreateEntry` stores a directory block with -/
inductive DirFix : (Blk → Blk) → Prop
  | root : DirFix rootFixed
  | dir : DirFix dirFixed

section
variable {fix : Blk → Blk}

theorem EntryFix.wf (h : EntryFix fix) (e : Blk) (hwf : BlkWF e) : BlkWF (fix e) := by
  cases h with
  | dir => exact dirFixed_wf hwf
  | file => exact fileHdrFixed_wf hwf
  | raw => exact hwf

theorem EntryFix.type (h : EntryFix fix) (e : Blk) (hwf : BlkWF e) (hty : e.w F_type = T_HEADER) :
    (fix e).w F_type = T_HEADER := by
  cases h with
  | dir => exact (C03.C03_dir_fixed e hwf.1).1
  | file => exact (C03.C03_fileHdr_fixed e hwf.1).1
  | raw => exact hty

/-- the entry writers keep every word from the table up to the chain link: the name area and the link in particular -/
theorem EntryFix.keeps (h : EntryFix fix) (e : Blk) (k : Nat) (h1 : 6 ≤ k) (h2 : k ≤ 124) : (fix e).w k = e.w k := by
  cases h with
  | dir => exact dirFixed_w e k (not_mem_of_window (by decide) h1 h2)
  | file => exact fileHdrFixed_w e k (not_mem_of_window (by decide) h1 h2)
  | raw => rfl

theorem EntryFix.name (h : EntryFix fix) (e : Blk) : SameNameArea e (fix e) :=
  fun k h1 h2 => h.keeps e k (Nat.le_trans (by decide) h1) (Nat.le_trans h2 (by decide))

/-- the directory and the file-header writer make whatever they are given a header block of their secondary type -/
structure HdrFix (fix : Blk → Blk) (st : Nat) : Prop where
  entry : EntryFix fix
  type : ∀ e, BlkWF e → (fix e).w F_type = T_HEADER
  sec : ∀ e, BlkWF e → (fix e).w F_secType = st

theorem HdrFix.dir : HdrFix dirFixed ST_DIR :=
  ⟨.dir, fun e h => (C03.C03_dir_fixed e h.1).1, fun e h => (C03.C03_dir_fixed e h.1).2.2.2⟩

theorem HdrFix.file : HdrFix fileHdrFixed ST_FILE :=
  ⟨.file, fun e h => (C03.C03_fileHdr_fixed e h.1).1, fun e h => (C03.C03_fileHdr_fixed e h.1).2.2⟩

theorem DirFix.wf (h : DirFix fix) (e : Blk) (hwf : BlkWF e) : BlkWF (fix e) := by
  cases h with
  | root => exact rootFixed_wf hwf
  | dir => exact dirFixed_wf hwf

theorem DirFix.type (h : DirFix fix) (e : Blk) (hwf : BlkWF e) : (fix e).w F_type = T_HEADER := by
  cases h with
  | root => exact (C03.C03_root_fixed e hwf.1).1
  | dir => exact (C03.C03_dir_fixed e hwf.1).1

/-- both keep the hash table -/
theorem DirFix.keeps (h : DirFix fix) (e : Blk) (k : Nat) (h1 : 6 ≤ k) (h2 : k ≤ 77) : (fix e).w k = e.w k := by
  cases h with
  | root => exact rootFixed_w e k (not_mem_of_window (by decide) h1 h2)
  | dir => exact dirFixed_w e k (not_mem_of_window (by decide) h1 h2)

end

/-- the block `adfCreateFile` / `adfCreateDir` start from: zeroes, the name length and the (at most 30) name bytes -/
def newEntryBase (name : Bytes) : Blk := (zeroBlk.setByte O_nameLen (name.take 30).length).setBytes O_name (name.take 30)

theorem newEntryBase_nameMatches (intl : Bool) (name : Bytes) : nameMatches intl name (newEntryBase name) := by
  have hlen : (name.take 30).length = min name.length 30 := by rw [List.length_take, Nat.min_comm]
  have hle : (name.take 30).length ≤ 30 := hlen ▸ Nat.min_le_right _ _
  have hwf1 : BlkWF (zeroBlk.setByte O_nameLen (name.take 30).length) := setByte_wf zeroBlk_wf
  have hend : O_name + (name.take 30).length ≤ 512 := Nat.le_trans (Nat.add_le_add_left hle O_name) (by decide)
  refine ⟨?_, ?_⟩
  · unfold Blk.nameLen newEntryBase
    rw [Blk.byte_setBytes _ _ _ hwf1 hend, if_neg (fun h => absurd h.1 (by decide)),
      Blk.byte_setByte _ _ _ _ zeroBlk_wf (by decide), if_pos rfl, Nat.mod_eq_of_lt (Nat.lt_of_le_of_lt hle (by decide)), hlen]
  · rw [take_min_length, ← hlen]
    unfold newEntryBase
    rw [Blk.bytes_setBytes _ _ _ hwf1 hend]

/-- a struct in the making for a new entry `name`: well-formed, the name area of `newEntryBase name`, chain link 0 -/
def FreshEntry (name : Bytes) (e : Blk) : Prop :=
  BlkWF e ∧ SameNameArea (newEntryBase name) e ∧ e.w F_nextSameHash = 0

theorem FreshEntry.base (name : Bytes) : FreshEntry name (newEntryBase name) := by
  refine ⟨setBytes_wf (setByte_wf zeroBlk_wf), fun _ _ _ => rfl, ?_⟩
  unfold newEntryBase
  rw [setBytes_w_ne (.inl (Nat.le_trans (Nat.add_le_add_left (List.length_take_le ..) O_name) (by decide))),
    setByte_w_ne (by decide)]
  exact zeroBlk_w _

theorem FreshEntry.setW {name : Bytes} {e : Blk} (h : FreshEntry name e) (k x : Nat) (hk : k < 108 ∨ 115 < k)
    (hl : k ≠ F_nextSameHash) : FreshEntry name (e.setW k x) :=
  ⟨setW_wf h.1, h.2.1.trans (SameNameArea.setW e k x hk), (Blk.w_setW_ne hl).trans h.2.2⟩

theorem FreshEntry.stamp {name : Bytes} {e : Blk} (h : FreshEntry name e) {t : DateTime} : FreshEntry name (stampDates e t) := by
  unfold stampDates
  exact ((h.setW F_days _ (.inl (by decide)) (by decide)).setW F_mins _ (.inl (by decide)) (by decide)).setW
    F_ticks _ (.inl (by decide)) (by decide)

end Adf
