/-
  AdfModel.Basic — bytes, big-endian words, hex, FNV hash.
  Core Lean only (no Mathlib) so that the driver links as an executable.
-/
namespace Adf

abbrev Bytes := List UInt8

/-- 2^32 as a literal, used at every site where the C code computes in `uint32_t`. -/
notation "W32" => (4294967296 : Nat)

/-- big-endian encoding of a 32-bit word (C: `swLong`) -/
def be32 (v : Nat) : Bytes :=
  [UInt8.ofNat (v / 16777216 % 256), UInt8.ofNat (v / 65536 % 256),
   UInt8.ofNat (v / 256 % 256), UInt8.ofNat (v % 256)]

/-- big-endian encoding of a 16-bit word (C: `swShort`) -/
def be16 (v : Nat) : Bytes :=
  [UInt8.ofNat (v / 256 % 256), UInt8.ofNat (v % 256)]

/-- big-endian decoding (C: `Long` / `swapLong`) -/
def unbe32 (b0 b1 b2 b3 : UInt8) : Nat :=
  b0.toNat * 16777216 + b1.toNat * 65536 + b2.toNat * 256 + b3.toNat

def unbe16 (b0 b1 : UInt8) : Nat := b0.toNat * 256 + b1.toNat

/-- read a big-endian 32-bit word at byte offset `off` (missing bytes read as 0) -/
def getBE32 (b : Bytes) (off : Nat) : Nat :=
  unbe32 (b.getD off 0) (b.getD (off+1) 0) (b.getD (off+2) 0) (b.getD (off+3) 0)

def getBE16 (b : Bytes) (off : Nat) : Nat :=
  unbe16 (b.getD off 0) (b.getD (off+1) 0)

/-- slice `len` bytes at `off` -/
def slice (b : Bytes) (off len : Nat) : Bytes := (b.drop off).take len

/-- pad with zero bytes / cut to exactly `n` bytes -/
def padTo (b : Bytes) (n : Nat) : Bytes := (b ++ List.replicate n 0).take n

/-- words of a byte string, 4 bytes each, big-endian -/
def wordsOf : Bytes → List Nat
  | b0 :: b1 :: b2 :: b3 :: rest => unbe32 b0 b1 b2 b3 :: wordsOf rest
  | _ => []

def bytesOfWords : List Nat → Bytes
  | [] => []
  | w :: ws => be32 w ++ bytesOfWords ws

/-- interpretation of a 32-bit word as a signed C `int32_t` -/
def toInt32 (v : Nat) : Int := if v < 2147483648 then (v : Int) else (v : Int) - 4294967296

/-- two's-complement encoding of an `Int` into 32 bits -/
def ofInt32 (i : Int) : Nat := (i % 4294967296).toNat

/-! ### hex and hashing (protocol only) -/

def hexDigit (n : Nat) : Char :=
  if n < 10 then Char.ofNat (48 + n) else Char.ofNat (87 + n)

def hexOfBytes (b : Bytes) : String :=
  if b.isEmpty then "-" else
  String.ofList (b.flatMap fun x => [hexDigit (x.toNat / 16), hexDigit (x.toNat % 16)])

def hexVal (c : Char) : Nat :=
  if c.isDigit then c.toNat - 48 else if c.toNat ≥ 97 then c.toNat - 87 else c.toNat - 55

def bytesOfHexAux : List Char → Bytes
  | a :: b :: rest => UInt8.ofNat (hexVal a * 16 + hexVal b) :: bytesOfHexAux rest
  | _ => []

def bytesOfHex (s : String) : Bytes :=
  if s == "-" then [] else bytesOfHexAux s.toList

def fnvStep (h : Nat) (b : UInt8) : Nat := ((h ^^^ b.toNat) * 16777619) % W32

def fnv (b : Bytes) : Nat := b.foldl fnvStep 2166136261

def hex8 (v : Nat) : String :=
  String.ofList ((List.range 8).map fun i => hexDigit (v / 16 ^ (7 - i) % 16))

/-- the deterministic data pattern the harness writes (`gen_byte` in adfh.c) -/
def genByte (seed i : Nat) : UInt8 :=
  UInt8.ofNat (((seed % W32) * 131 + i * 7 + (i / 251) * 13 + 17) % 256)

def genData (seed n : Nat) : Bytes := (List.range n).map (genByte seed)

theorem horner_div (x : Nat) {d n : Nat} (h : d < n) : (x * n + d) / n = x := by
  rw [Nat.add_comm, Nat.add_mul_div_right _ _ (Nat.zero_lt_of_lt h), Nat.div_eq_of_lt h, Nat.zero_add]

theorem horner_mod (x : Nat) {d n : Nat} (h : d < n) : (x * n + d) % n = d := by
  rw [Nat.mul_add_mod_self_right, Nat.mod_eq_of_lt h]

/-- `unbe32` evaluates its four digits by Horner's rule; `be32` takes them off again by `/ 256` and `% 256` -/
theorem unbe32_horner (a b c d : UInt8) :
    unbe32 a b c d = ((a.toNat * 256 + b.toNat) * 256 + c.toNat) * 256 + d.toNat := by
  simp only [unbe32, Nat.add_mul, Nat.mul_assoc, Nat.reduceMul]

theorem unbe32_be32 (v : Nat) (h : v < W32) :
    (match be32 v with
     | [a, b, c, d] => unbe32 a b c d
     | _ => 0) = v := by
  show unbe32 _ _ _ _ = v
  have h3 : v / 256 / 256 / 256 < 256 := by
    rw [Nat.div_div_eq_div_mul, Nat.div_div_eq_div_mul]; exact Nat.div_lt_of_lt_mul h
  rw [unbe32_horner, ← Nat.div_div_eq_div_mul _ 65536 256, ← Nat.div_div_eq_div_mul _ 256 256]
  simp only [UInt8.toNat_ofNat_of_lt' (Nat.mod_lt _ (by decide : 0 < 256))]
  rw [Nat.mod_eq_of_lt h3, Nat.div_add_mod', Nat.div_add_mod', Nat.div_add_mod']

theorem be32_length (v : Nat) : (be32 v).length = 4 := rfl

theorem bytesOfWords_length (ws : List Nat) : (bytesOfWords ws).length = 4 * ws.length := by
  induction ws with
  | nil => rfl
  | cons w ws ih => rw [bytesOfWords, List.length_append, ih, List.length_cons, Nat.mul_succ, Nat.add_comm]; rfl

theorem wordsOf_bytesOfWords (ws : List Nat) (h : ∀ w ∈ ws, w < W32) :
    wordsOf (bytesOfWords ws) = ws := by
  induction ws with
  | nil => rfl
  | cons w ws ih =>
    show unbe32 _ _ _ _ :: wordsOf (bytesOfWords ws) = _
    rw [ih fun x hx => h x (List.mem_cons_of_mem _ hx)]
    exact congrArg (· :: ws) (unbe32_be32 w (h w List.mem_cons_self))

theorem wordsOf_length (n : Nat) (b : Bytes) (h : b.length = 4 * n) : (wordsOf b).length = n := by
  induction n generalizing b with
  | zero => rw [List.eq_nil_of_length_eq_zero h]; rfl
  | succ n ih =>
    match b, h with
    | _ :: _ :: _ :: _ :: rest, h => exact congrArg (· + 1) (ih rest (Nat.add_right_cancel (m := 4) h))

theorem unbe32_lt (a b c d : UInt8) : unbe32 a b c d < W32 := by
  have := a.toNat_lt; have := b.toNat_lt; have := c.toNat_lt; have := d.toNat_lt
  simp only [unbe32]; omega

theorem wordsOf_lt (b : Bytes) : ∀ w ∈ wordsOf b, w < W32 := by
  induction b using wordsOf.induct with
  | case1 b0 b1 b2 b3 rest ih =>
    intro w hw
    rcases List.mem_cons.mp hw with rfl | hw
    · exact unbe32_lt ..
    · exact ih w hw
  | case2 b h => rw [wordsOf.eq_2 b h]; exact fun _ hw => nomatch hw

theorem slice_length_le (b : Bytes) (off n : Nat) : (slice b off n).length ≤ n := List.length_take_le ..

theorem padTo_length (b : Bytes) (n : Nat) : (padTo b n).length = n := by
  unfold padTo
  rw [List.length_take, List.length_append, List.length_replicate]
  exact Nat.min_eq_left (Nat.le_add_left _ _)

theorem padTo_id (b : Bytes) (n : Nat) (h : b.length = n) : padTo b n = b := by
  unfold padTo
  rw [List.take_append_of_le_length (Nat.le_of_eq h.symm), List.take_of_length_le (Nat.le_of_eq h)]

end Adf
