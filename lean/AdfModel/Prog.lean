/-
  AdfModel.Prog — the model's execution substrate.

  Library code is written as values of a small free monad `Prog`: the only ways to touch the
  device are the four I/O primitives below, which mirror adfReadBlock / adfWriteBlock
  (volume level: mounted check, read-only check, logical→physical translation modulo 2^32,
  range check) and adfReadBlockDev / adfWriteBlockDev (raw device level).  Everything the C
  code keeps in memory between calls (bitmaps, current directory, open files) is `Mem`.
  The configuration `Cfg` (device geometry and flags, volume ranges and flags) is read-only
  for a `Prog`: in the C code these fields are assigned only by the open / mount / unmount /
  create functions, which the model runs at the top level (AdfModel/Api.lean).

  Because *every* library function is a `Prog`, statements such as "no write event is emitted
  for a read-only volume" or "every volume-level access lies inside the volume's range" are
  proved once, by induction on `Prog`, for all programs (AdfProofs/ProgLemmas.lean; AdfProps/C12, C13 state them).
-/
import Std.Data.HashMap
import AdfModel.Basic
namespace Adf

abbrev RC := Int
def rcOK : RC := 0
def rcError : RC := -1
def rcMalloc : RC := 1
def rcVolFull : RC := 2
def rcBlockOutOfRange : RC := 1
def rcBlockSum : RC := 4
def rcBlockType : RC := 1
def rcBlockRead : RC := 16

structure VolCfg where
  firstBlock : Nat
  lastBlock : Nat
  rootBlock : Nat
  dosType : Nat := 0
  datablockSize : Nat := 488
  readOnly : Bool := false
  mounted : Bool := false
  volName : Option Bytes := none
  deriving Repr, Inhabited

structure Cfg where
  devSize : Nat := 0            -- bytes
  devReadOnly : Bool := false
  devType : Int := 0
  cylinders : Nat := 0
  heads : Nat := 0
  sectors : Nat := 0
  native : Bool := false
  vols : List VolCfg := []
  deriving Repr, Inhabited

def Cfg.vol (c : Cfg) (v : Nat) : VolCfg := c.vols.getD v default

inductive Ev where
  | rd (vol : Option Nat) (sector size : Nat) (status : Nat)              -- status: 0 ok, 1 injected fault, 2 device error
  | wr (vol : Option Nat) (sector size : Nat) (data : Bytes) (status : Nat)
  deriving Repr, Inhabited

/-- words of a 512-byte block kept in memory as a C struct of big-endian longs -/
abbrev Blk := List Nat

structure VolMem where
  hasBitmap : Bool := false
  bitmapSize : Nat := 0
  bitmapBlocks : List Nat := []
  bitmapTable : List Blk := []
  bitmapChg : List Bool := []
  curDirPtr : Nat := 0
  deriving Repr, Inhabited

structure FileH where
  vol : Nat
  hdr : Blk
  curData : Bytes
  curExt : Option Blk := none
  nDataBlock : Nat := 0
  curDataPtr : Nat := 0
  pos : Nat := 0
  posInDataBlk : Nat := 0
  posInExtBlk : Nat := 0
  modeRead : Bool := false
  modeWrite : Bool := false
  changed : Bool := false
  deriving Repr, Inhabited

structure DateTime where
  year : Nat := 2024      -- full year
  mon : Nat := 3
  day : Nat := 1
  hour : Nat := 12
  min : Nat := 0
  sec : Nat := 0
  deriving Repr, Inhabited

structure Mem where
  vols : List VolMem := []
  files : List (Nat × FileH) := []
  useDirCache : Bool := false
  deriving Inhabited

def Mem.vol (m : Mem) (v : Nat) : VolMem := m.vols.getD v default
def Mem.setVol (m : Mem) (v : Nat) (x : VolMem) : Mem :=
  { m with vols := (m.vols ++ List.replicate (v + 1 - m.vols.length) default).set v x }

inductive Fault where
  | oob (site : String)
  | outOfFuel (site : String)
  | uninit (site : String)
  | unsupported (site : String)
  deriving Repr, Inhabited

structure St where
  disk : Std.HashMap Nat Bytes := {}
  trace : List Ev := []            -- newest first
  ioCount : Nat := 0
  faultAt : Option Nat := none     -- absolute index of the failing access
  faultEvery : Bool := false
  faultCount : Nat := 1            -- number of consecutive accesses that fail, starting at `faultAt`
  faultsFired : Nat := 0
  clock : DateTime := {}
  mem : Mem := {}
  deriving Inhabited

def zeroBlock : Bytes := List.replicate 512 0

def St.sector (s : St) (n : Nat) : Bytes := s.disk.getD n zeroBlock

inductive Prim : Type → Type where
  | volRead (v n : Nat) : Prim (RC × Bytes)
  | volWrite (v n : Nat) (b : Bytes) : Prim RC
  | devRead (n size : Nat) : Prim (RC × Bytes)
  | devWrite (n size : Nat) (b : Bytes) : Prim RC     -- includes the `if (dev->readOnly) return RC_ERROR` of adfWrite{RDSK,PART,FSHD,LSEG}block
  | getCfg : Prim Cfg
  | getMem : Prim Mem
  | setMem (m : Mem) : Prim Unit
  | now : Prim DateTime

inductive Prog : Type → Type 1 where
  | pure {α : Type} (a : α) : Prog α
  | bind {α β : Type} (p : Prog β) (k : β → Prog α) : Prog α
  | prim {α : Type} (p : Prim α) : Prog α
  | fail {α : Type} (f : Fault) : Prog α

instance : Monad Prog where
  pure := Prog.pure
  bind := Prog.bind

inductive Res (α : Type) where
  | ok (a : α)
  | fault (f : Fault)
  deriving Inhabited

/-- does the access with the current index fail?  (returns the verdict and the updated counters) -/
def St.tick (s : St) : Bool × St :=
  let k := s.ioCount
  let fail := match s.faultAt with
    | some f => (decide (k ≥ f) && decide (k < f + s.faultCount)) || (s.faultEvery && k ≥ f)
    | none => false
  (fail, { s with ioCount := k + 1, faultsFired := s.faultsFired + (if fail then 1 else 0) })

/-- raw device read of `size` bytes at sector `n` (adfReadDumpSector / native read) -/
def devReadRaw (c : Cfg) (vol : Option Nat) (n size : Nat) (s : St) : (RC × Bytes) × St :=
  let (fail, s) := s.tick
  if fail then ((rcError, []), { s with trace := Ev.rd vol n size 1 :: s.trace })
  else if n * 512 + size > c.devSize then ((rcError, []), { s with trace := Ev.rd vol n size 2 :: s.trace })
  else ((rcOK, (s.sector n).take size), { s with trace := Ev.rd vol n size 0 :: s.trace })

def devWriteRaw (c : Cfg) (vol : Option Nat) (n size : Nat) (b : Bytes) (s : St) : RC × St :=
  let (fail, s) := s.tick
  if fail then (rcError, { s with trace := Ev.wr vol n size b 1 :: s.trace })
  else if n * 512 + size > c.devSize then (rcError, { s with trace := Ev.wr vol n size b 2 :: s.trace })
  else (rcOK, { s with disk := s.disk.insert n (padTo b 512), trace := Ev.wr vol n size b 0 :: s.trace })

def runPrim (c : Cfg) : {α : Type} → Prim α → St → Res α × St
  | _, .volRead v n, s =>
    let vc := c.vol v
    if !vc.mounted then (.ok (rcError, []), s) else
    let p := (n + vc.firstBlock) % 4294967296
    if p < vc.firstBlock ∨ p > vc.lastBlock then (.ok (rcBlockOutOfRange, []), s) else
    let (r, s) := devReadRaw c (some v) p 512 s
    (.ok r, s)
  | _, .volWrite v n b, s =>
    let vc := c.vol v
    if !vc.mounted then (.ok rcError, s) else
    if vc.readOnly then (.ok rcError, s) else
    let p := (n + vc.firstBlock) % 4294967296
    if p < vc.firstBlock ∨ p > vc.lastBlock then (.ok rcBlockOutOfRange, s) else
    let (r, s) := devWriteRaw c (some v) p 512 b s
    (.ok r, s)
  | _, .devRead n size, s =>
    let (r, s) := devReadRaw c none n size s
    (.ok r, s)
  | _, .devWrite n size b, s =>
    if c.devReadOnly then (.ok rcError, s) else
    let (r, s) := devWriteRaw c none n size b s
    (.ok r, s)
  | _, .getCfg, s => (.ok c, s)
  | _, .getMem, s => (.ok s.mem, s)
  | _, .setMem m, s => (.ok (), { s with mem := m })
  | _, .now, s => (.ok s.clock, s)

def run (c : Cfg) : {α : Type} → Prog α → St → Res α × St
  | _, .pure a, s => (.ok a, s)
  | _, .prim p, s => runPrim c p s
  | _, .fail f, s => (.fault f, s)
  | _, .bind p k, s =>
    match run c p s with
    | (.ok b, s') => run c (k b) s'
    | (.fault f, s') => (.fault f, s')

/-! convenience wrappers -/
def volRead (v n : Nat) : Prog (RC × Bytes) := .prim (.volRead v n)
def volWrite (v n : Nat) (b : Bytes) : Prog RC := .prim (.volWrite v n b)
def devRead (n size : Nat) : Prog (RC × Bytes) := .prim (.devRead n size)
def devWrite (n size : Nat) (b : Bytes) : Prog RC := .prim (.devWrite n size b)
def getCfg : Prog Cfg := .prim .getCfg
def getMem : Prog Mem := .prim .getMem
def setMem (m : Mem) : Prog Unit := .prim (.setMem m)
def now : Prog DateTime := .prim .now
def fault {α : Type} (f : Fault) : Prog α := .fail f

def getVolCfg (v : Nat) : Prog VolCfg := do return (← getCfg).vol v
def getVolMem (v : Nat) : Prog VolMem := do return (← getMem).vol v
def setVolMem (v : Nat) (x : VolMem) : Prog Unit := do setMem ((← getMem).setVol v x)
def modVolMem (v : Nat) (f : VolMem → VolMem) : Prog Unit := do setVolMem v (f (← getVolMem v))

end Adf
