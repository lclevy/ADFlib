/-
  C02 — Namespace fidelity.
  What is proved on the model (for every chain layout on the disk, every position of the entry in its chain, every
  name and case variant, both case-folding tables):
   * lookup refines the abstract map "first entry of the slot's chain whose name is `sameName`": the block returned
     by `adfNameToEntryBlk` is the first match, wherever it sits (head, middle, tail); no match ⇒ not found, and the
     tail of the chain is reported for linking;
   * the comparison is the equivalence relation of C15, and two equal names always live in the same slot (C15), so a
     name has at most one reachable entry per directory as long as creation refuses duplicates — which it does:
   * `adfCreateEntry` with a name that already exists returns failure having written nothing, with the bitmap and all
     other library memory untouched (first of the "failed calls change nothing" cases; it is the kernel shared by
     create-file, create-directory and rename's destination).
   * removing or renaming a name that is not there, removing a non-empty directory or an unsupported entry, renaming or
     moving onto an existing name: each fails and leaves disk, library memory (bitmap, free count) and write log as they
     were; and the chain hypotheses of all these theorems are met by states the library's own block writer produces.
   * closing / flushing a write handle cannot unlink the entries chained behind the file: the header sector written by
     `adfFileFlush` carries the chain link, parent and protection words of the sector as it is on the disk, whatever the
     (possibly stale) copy in the handle says (the defect repaired by 5ae3d82), for every disk, handle and fault schedule.
   * SUCCESS path, first step of the tree refinement: on a healthy device, when `adfCreateFile` has linked a new entry into
     an empty hash slot and written its header, the directory on the disk is valid, its slot holds a one-entry chain, the
     entry matches the requested name (the name bytes written are the name bytes read back, proved at byte level), and the
     library's lookup of that name returns the new block;
     and the second case, a NON-EMPTY chain: the last entry is rewritten with only its link changed, the new entry follows
     it, every other member and the directory are untouched, and the lookup walks past them to the new block.
   * SUCCESS path of removal (its link step): removing the head of a chain leaves the directory valid with the slot
     starting the chain of the remaining entries; removing an inner or last member rewrites the predecessor with only its
     link changed; in both cases every other member and (inner case) the directory are untouched; with `C02_not_found`
     the removed name is then not found when no remaining entry carries it, and with `C02_first_match` every remaining
     entry still is.
  Everything else of C02 — the full tree equality over histories, successful delete/rename/move, moving a directory into
  its own subtree, the DIRCACHE variants, free block counts — is decided on the real code by the history checks against the reference tree model
  (tools/spec.py) and the independent decoder, with the model tied trace-exactly.  (MANIFEST: partial.)
-/
import AdfProofs.FileWriteLemmas
import AdfProofs.RemoveUnlink
import AdfProofs.RefusalLemmas
import AdfProps.C15
import AdfProofs.CreateFound
import AdfProofs.Undelete
namespace Adf.C02

/-- lookup over any chain on a healthy device equals the reference lookup -/
theorem C02_lookup_refines (c : Cfg) (v : Nat) (intl : Bool) (name : Bytes) (chain : List (Nat × Blk))
    (fuel n upd : Nat) (last : Blk) (s : St)
    (hne : chain ≠ []) (hlen : chain.length ≤ fuel) (hf : s.faultAt = none) (hch : ChainOn c s.disk v n chain) :
    Post (fun _ => False) c (nameToEntryBlkLoop v intl name fuel n upd) s (fun r s' =>
      r = lookupSpec intl name chain upd last ∧ s'.disk = s.disk ∧ s'.faultAt = none ∧ s'.mem = s.mem ∧
      writesOf s'.trace = writesOf s.trace) :=
  (nameToEntryBlkLoop_lookup c v intl name chain fuel n upd last s hne hlen hf hch).mono
    fun _ _ ⟨h, r⟩ => ⟨h, r.disk, r.faultAt.trans hf, r.mem, r.writes⟩

/-- the reference lookup returns the first match, with the block preceding it as the update point -/
theorem C02_first_match (intl : Bool) (name : Bytes) (pre : List (Nat × Blk)) (n : Nat) (b : Blk)
    (post : List (Nat × Blk)) (upd : Nat) (last : Blk)
    (hpre : ∀ e ∈ pre, ¬ nameMatches intl name e.2) (hm : nameMatches intl name b) :
    lookupSpec intl name (pre ++ (n, b) :: post) upd last = (some n, b, (pre.getLast?.map (·.1)).getD upd) :=
  lookupSpec_first_match intl name pre n b post upd last hpre hm

/-- … and "not found" exactly when no entry of the chain matches -/
theorem C02_not_found (intl : Bool) (name : Bytes) (chain : List (Nat × Blk)) (upd : Nat) (last : Blk)
    (hne : chain ≠ []) (hno : ∀ e ∈ chain, ¬ nameMatches intl name e.2) :
    (lookupSpec intl name chain upd last).1 = none :=
  lookupSpec_not_found intl name chain upd last hno

/-- the comparison used along the chain is C15's `sameName` on the stored name -/
theorem C02_comparison_is_sameName (intl : Bool) (name : Bytes) (b : Blk) (hb : b.nameLen ≤ 30) :
    nameMatches intl name b ↔ sameName intl name (b.bytes O_name b.nameLen) = true := by
  unfold nameMatches sameName MAXNAMELEN
  have hl : (b.bytes O_name b.nameLen).length = b.nameLen := Blk.bytes_length ..
  simp only [List.take_of_length_le (Nat.le_trans (Nat.le_of_eq hl) hb), hl, List.length_take, Bool.and_eq_true, beq_iff_eq,
    take_min_length]
  rw [Nat.min_comm]
  exact ⟨fun ⟨h1, h2⟩ => ⟨h1, h1 ▸ h2⟩, fun ⟨h1, h2⟩ => ⟨h1, h1 ▸ h2⟩⟩

theorem C02_create_existing_changes_nothing (c : Cfg) (v : Nat) (dir : Blk) (name : Bytes)
    (chain : List (Nat × Blk)) (s : St)
    (hf : s.faultAt = none)
    (hch : ChainOn c s.disk v (dir.hash (hashName (useIntl (c.vol v).dosType) name)) chain)
    (hne : chain ≠ []) (hlen : chain.length ≤ (c.vol v).lastBlock - (c.vol v).firstBlock + 1)
    (hex : ∃ e ∈ chain, nameMatches (useIntl (c.vol v).dosType) name e.2) :
    Post (fun _ => False) c (createEntry v dir name) s (fun r s' =>
      r = (none, dir) ∧ s'.disk = s.disk ∧ s'.mem = s.mem ∧ writesOf s'.trace = writesOf s.trace) := by
  unfold createEntry
  apply Post.bind; apply Post.getVolCfg
  refine Post.ite (fun h => absurd h (hch.ne_zero hne)) (fun _ => ?_)
  apply Post.bind
  refine (createEntryWalk_spec c v _ name chain _ _ s hne hlen hf hch).mono ?_
  rintro r s' ⟨⟨h1, _⟩, r1⟩
  rw [h1 hex]
  exact Post.pure ⟨rfl, r1.disk, r1.mem, r1.writes⟩

/-- removing a name that is not there fails and leaves the disk, the library memory (bitmap included) and the write log as
    they were (`Untouched`, here and below) -/
theorem C02_remove_missing_changes_nothing (c : Cfg) (v pSect : Nat) (parent : Blk) (name : Bytes)
    (chain : List (Nat × Blk)) (s : St)
    (hf : s.faultAt = none) (hpar : EntryAt c s.disk v pSect parent)
    (hch : ChainOn c s.disk v (parent.hash (hashName (useIntl (c.vol v).dosType) name)) chain)
    (hlen : chain.length ≤ (c.vol v).lastBlock - (c.vol v).firstBlock + 1)
    (hno : ∀ e ∈ chain, ¬ nameMatches (useIntl (c.vol v).dosType) name e.2) :
    Post (fun _ => False) c (removeEntry v pSect name) s (fun rc s' => rc = rcError ∧ Untouched s s') :=
  (removeEntry_refused c v pSect parent name chain s hf hpar hch hlen fun _ _ _ h =>
    nomatch (congrArg Prod.fst h).symm.trans (lookupSpec_not_found _ _ _ _ _ hno)).mono fun _ _ h => ⟨h.1, h.2.untouched⟩

/-- deleting a non-empty directory (or an entry that is neither file nor directory) fails and changes nothing,
    wherever the entry sits in its chain -/
theorem C02_remove_nonempty_changes_nothing (c : Cfg) (v pSect : Nat) (parent : Blk) (name : Bytes)
    (pre : List (Nat × Blk)) (n : Nat) (b : Blk) (post : List (Nat × Blk)) (s : St)
    (hf : s.faultAt = none) (hpar : EntryAt c s.disk v pSect parent)
    (hch : ChainOn c s.disk v (parent.hash (hashName (useIntl (c.vol v).dosType) name)) (pre ++ (n, b) :: post))
    (hlen : (pre ++ (n, b) :: post).length ≤ (c.vol v).lastBlock - (c.vol v).firstBlock + 1)
    (hpre : ∀ e ∈ pre, ¬ nameMatches (useIntl (c.vol v).dosType) name e.2)
    (hm : nameMatches (useIntl (c.vol v).dosType) name b)
    (hbad : (b.secType = ST_DIR ∧ isDirEmpty b = false) ∨ (b.secType ≠ ST_FILE ∧ b.secType ≠ ST_DIR)) :
    Post (fun _ => False) c (removeEntry v pSect name) s (fun rc s' => rc = rcError ∧ Untouched s s') :=
  (removeEntry_refused c v pSect parent name _ s hf hpar hch hlen fun n' b' p h => by
    rw [lookupSpec_first_match _ _ pre n b post 0 zeroBlk hpre hm] at h
    cases h
    exact hbad).mono fun _ _ h => ⟨h.1, h.2.untouched⟩

theorem C02_rename_missing_changes_nothing (c : Cfg) (v pSect nPSect : Nat) (parent : Blk) (oldName newName : Bytes)
    (chain : List (Nat × Blk)) (s : St)
    (hdiff : ¬ (pSect = nPSect ∧ oldName = newName))
    (hf : s.faultAt = none) (hpar : EntryAt c s.disk v pSect parent)
    (hch : ChainOn c s.disk v (parent.hash (hashName (useIntl (c.vol v).dosType) oldName)) chain)
    (hlen : chain.length ≤ (c.vol v).lastBlock - (c.vol v).firstBlock + 1)
    (hno : ∀ e ∈ chain, ¬ nameMatches (useIntl (c.vol v).dosType) oldName e.2) :
    Post (fun _ => False) c (renameEntry v pSect oldName nPSect newName) s (fun rc s' => rc = rcError ∧ Untouched s s') :=
  (renameEntry_refused c v pSect nPSect parent oldName newName chain s hdiff hf hpar hch hlen fun _ _ _ h =>
    nomatch (congrArg Prod.fst h).symm.trans (lookupSpec_not_found _ _ _ _ _ hno)).mono fun _ _ h => ⟨h.1, h.2.untouched⟩

/-- renaming / moving onto a name that already exists in the destination directory fails and changes nothing — the
    source entry stays where it was (the defect repaired by 6f156ca: it was unlinked first and lost) -/
theorem C02_rename_onto_existing_changes_nothing (c : Cfg) (v pSect nPSect : Nat) (parent nParent : Blk)
    (oldName newName : Bytes) (pre : List (Nat × Blk)) (n : Nat) (b : Blk) (post : List (Nat × Blk))
    (chain2 : List (Nat × Blk)) (s : St)
    (hdiff : ¬ (pSect = nPSect ∧ oldName = newName))
    (hnc : isDIRCACHE (c.vol v).dosType = false)
    (hf : s.faultAt = none) (hpar : EntryAt c s.disk v pSect parent) (hnpar : EntryAt c s.disk v nPSect nParent)
    (hch : ChainOn c s.disk v (parent.hash (hashName (useIntl (c.vol v).dosType) oldName)) (pre ++ (n, b) :: post))
    (hlen : (pre ++ (n, b) :: post).length ≤ (c.vol v).lastBlock - (c.vol v).firstBlock + 1)
    (hpre : ∀ e ∈ pre, ¬ nameMatches (useIntl (c.vol v).dosType) oldName e.2)
    (hm : nameMatches (useIntl (c.vol v).dosType) oldName b)
    (hch2 : ChainOn c s.disk v (nParent.hash (hashName (useIntl (c.vol v).dosType) newName)) chain2)
    (hlen2 : chain2.length ≤ (c.vol v).lastBlock - (c.vol v).firstBlock + 1)
    (hex : ∃ e ∈ chain2, e.1 ≠ n ∧ nameMatches (useIntl (c.vol v).dosType) newName e.2) :
    Post AnyFault c (renameEntry v pSect oldName nPSect newName) s (fun rc s' => rc = rcError ∧ Untouched s s') :=
  (renameEntry_refused c v pSect nPSect parent oldName newName _ s hdiff hf hpar hch hlen fun n' b' p h => by
    rw [lookupSpec_first_match _ _ pre n b post 0 zeroBlk hpre hm] at h
    cases h
    exact ⟨fun _ => trivial, hnc, nParent, chain2, hnpar, hch2, hlen2, hex⟩).mono fun _ _ h => ⟨h.1, h.2.untouched⟩

/-- non-vacuity of all the chain hypotheses above: a two-entry chain is produced by the library's own block writer -/
theorem C02_chain_hypotheses_reachable (c : Cfg) (v n1 n2 : Nat) (e1 e2 : Blk) (s : St)
    (hf : s.faultAt = none) (hr1 : Readable c v n1) (hr2 : Readable c v n2) (hrw : (c.vol v).readOnly = false)
    (hne : vsect c v n1 ≠ vsect c v n2) (h1 : n1 ≠ 0) (h2 : n2 ≠ 0)
    (hwf1 : BlkWF e1) (hwf2 : BlkWF e2) (ht1 : e1.w F_type = T_HEADER) (ht2 : e2.w F_type = T_HEADER)
    (hl1 : e1.w F_nextSameHash = n2) (hl2 : e2.w F_nextSameHash = 0) :
    ∃ s', run c (do let _ ← writeEntryBlock v n2 e2; writeEntryBlock v n1 e1) s = (.ok rcOK, s') ∧
          ChainOn c s'.disk v n1 [(n1, withSum e1 F_checkSum), (n2, withSum e2 F_checkSum)] := by
  obtain ⟨sa, hra, _, hfa, _, _, _, hea, rfl⟩ := writeEntryBlock_healthy c v n2 e2 s hf hr2 hrw hwf2 ht2
  obtain ⟨sb, hrb, _, hRb⟩ := writeEntryBlock_healthy c v n1 e1 sa hfa hr1 hrw hwf1 ht1
  have hea' := hRb.other hea hne
  obtain ⟨_, _, _, _, heb, rfl⟩ := hRb
  refine ⟨sb, by rw [run_bind', hra]; exact hrb, h1, rfl, heb, ?_⟩
  rw [withSum_w_ne (by decide), hl1]
  exact ⟨h2, rfl, hea', (withSum_w_ne (by decide)).trans hl2⟩

/-- **Flushing a write handle keeps the hash-chain link that is on the disk.**  For every handle state (in particular a
    header copy taken before other entries were chained behind the file), every disk content and every fault schedule, the
    header part of `adfFileFlush` writes nothing or exactly the file's header sector, and the bytes it writes decode to
    `nextSameHash`, `parent` and `access` words equal to those of that sector before the write. -/
theorem C02_flush_keeps_chain_link (c : Cfg) (h : FileH) (s : St) (hwf : BlkWF h.hdr) :
    Post AnyFault c (fileFlushHdr h) s (fun _ s' =>
      writesOf s'.trace = writesOf s.trace ∨
      ∃ data st, writesOf s'.trace = Ev.wr (some h.vol) (vsect c h.vol (h.hdr.w F_headerKey)) 512 data st :: writesOf s.trace ∧
        linkOfSector data = linkOfSector ((s.sector (vsect c h.vol (h.hdr.w F_headerKey))).take 512)) :=
  (fileFlushHdr_spec c h s hwf).mono fun _ _ h => h.2

/-- the hypothesis is met by every header the library decodes from a sector -/
example (bytes : Bytes) : BlkWF (blkOfBytes bytes) := blkOfBytes_wf bytes

/-- the byte-level fact under the success-path theorems below: a block that agrees with the freshly built entry on the name area is matched by a
    lookup of the name — for every name (any bytes, any length; 30 significant) and both folding tables -/
theorem C02_name_written_is_name_matched (intl : Bool) (name : Bytes) (b : Blk) (h : SameNameArea (newEntryBase name) b) :
    nameMatches intl name b :=
  (nameMatches_of_sameNameArea intl name _ b h).mpr (newEntryBase_nameMatches intl name)

/-- **A created file is linked under its name** (success path).  Healthy device, writable volume without directory cache;
    `parent` is the valid directory block stored at `nParent` (its self pointer — or the root position — names that sector),
    the hash slot of `name` in it is empty, and every block the bitmap has free is a block of the volume other than the
    directory.  Whenever the first half of `adfCreateFile` (link + header write) succeeds, the disk holds the directory,
    valid, with the slot pointing to a block `b`, and at `b` a valid entry block with link 0 that matches `name`. -/
theorem C02_created_file_is_linked (c : Cfg) (v nParent : Nat) (name : Bytes) (parent : Blk) (s : St)
    (hnc : isDIRCACHE (c.vol v).dosType = false) (hf : s.faultAt = none) (hrw : (c.vol v).readOnly = false)
    (hpar : EntryAt c s.disk v nParent parent) (hkey : dirKey (c.vol v) parent = nParent)
    (hslot : parent.hash (hashName (useIntl (c.vol v).dosType) name) = 0)
    (hsmall : ∀ k, bmIsFree (s.mem.vol v).bitmapTable k = true → k < 4294967296)
    (hvol : ∀ k, bmIsFree (s.mem.vol v).bitmapTable k = true → 2 ≤ k → Readable c v k ∧ vsect c v k ≠ vsect c v nParent) :
    Post AnyFault c (createFileLink v nParent name) s (fun r s' => r.2.2.isSome = true →
      ∃ b par' hdr, EntryAt c s'.disk v nParent par' ∧
        ChainOn c s'.disk v (par'.hash (hashName (useIntl (c.vol v).dosType) name)) [(b, hdr)] ∧
        nameMatches (useIntl (c.vol v).dosType) name hdr ∧ s'.faultAt = none) := by
  refine (createFileLink_run c v nParent name s).mono fun r s' h hs => ?_
  obtain ⟨b, s2, ⟨h2, hne, hL⟩, hN⟩ := h.healthy hnc hrw hpar .file
    (fun _ _ _ r1 h => h.slot_healthy r1 hf hrw hpar hkey hslot hsmall hvol) hs
  obtain ⟨par', hdr, hP, hC, hH, _⟩ := hL.chain hN h2 hne
  exact ⟨b, par', hdr, hP, hC, C02_name_written_is_name_matched _ name hdr hH.2.1, hN.1⟩

/-- … and in such a state the library's own lookup of the name returns that block -/
theorem C02_created_file_is_found (c : Cfg) (v : Nat) (par' : Blk) (name : Bytes) (b : Nat) (hdr : Blk) (s : St)
    (hf : s.faultAt = none)
    (hch : ChainOn c s.disk v (par'.hash (hashName (useIntl (c.vol v).dosType) name)) [(b, hdr)])
    (hm : nameMatches (useIntl (c.vol v).dosType) name hdr) :
    Post (fun _ => False) c (nameToEntryBlk v par' name) s (fun r _ => r.1 = some b ∧ r.2.1 = hdr) := by
  refine (nameToEntryBlk_lookup c v par' name [(b, hdr)] s hf hch (Nat.le_add_left _ _)).mono ?_
  rintro r _ ⟨rfl, _⟩
  rw [lookupSpec_match hm]
  exact ⟨rfl, rfl⟩

/-- **A file created at the end of a non-empty chain** (success path, second case): the chain `pre ++ [(m, last)]` of the
    name's slot holds no entry of that name and its last entry is stored where its self pointer says; sectors of chain
    members, directory and free blocks are pairwise different where it matters.  Whenever link + header write succeed, the
    disk holds `pre ++ [(m, last'), (b, hdr)]`: `last'` is `last` with only its link (and checksum / writer fix-ups) changed,
    `hdr` is valid and matches the name; the directory block and the other members are as they were. -/
theorem C02_created_file_is_appended (c : Cfg) (v nParent : Nat) (name : Bytes) (parent : Blk) (s : St)
    (pre : List (Nat × Blk)) (m : Nat) (last : Blk)
    (hnc : isDIRCACHE (c.vol v).dosType = false) (hf : s.faultAt = none) (hrw : (c.vol v).readOnly = false)
    (hpar : EntryAt c s.disk v nParent parent)
    (hch : ChainOn c s.disk v (parent.hash (hashName (useIntl (c.vol v).dosType) name)) (pre ++ [(m, last)]))
    (hlen : (pre ++ [(m, last)]).length ≤ (c.vol v).lastBlock - (c.vol v).firstBlock + 1)
    (hno : ∀ e ∈ pre ++ [(m, last)], ¬ nameMatches (useIntl (c.vol v).dosType) name e.2)
    (hself : last.w F_headerKey = m)
    (hsmall : ∀ k, bmIsFree (s.mem.vol v).bitmapTable k = true → k < 4294967296)
    (hvol : ∀ k, bmIsFree (s.mem.vol v).bitmapTable k = true → 2 ≤ k → Readable c v k ∧ vsect c v k ≠ vsect c v nParent ∧
      ∀ e ∈ pre ++ [(m, last)], vsect c v k ≠ vsect c v e.1)
    (hdist : ∀ e ∈ pre, vsect c v m ≠ vsect c v e.1) (hparm : vsect c v m ≠ vsect c v nParent) :
    Post AnyFault c (createFileLink v nParent name) s (fun r s' => r.2.2.isSome = true →
      ∃ b last' hdr, EntryAt c s'.disk v nParent parent ∧
        ChainOn c s'.disk v (parent.hash (hashName (useIntl (c.vol v).dosType) name)) (pre ++ [(m, last'), (b, hdr)]) ∧
        SameNameArea last last' ∧ nameMatches (useIntl (c.vol v).dosType) name hdr ∧ s'.faultAt = none) := by
  refine (createFileLink_run c v nParent name s).mono fun r s' h hs => ?_
  obtain ⟨b, s2, ⟨hb0, ⟨hneP, hneC⟩, hR2⟩, hN⟩ := h.healthy hnc hrw hpar .file (L := fun b s2 =>
    b ≠ 0 ∧ (vsect c v b ≠ vsect c v nParent ∧ ∀ e ∈ pre ++ [(m, last)], vsect c v b ≠ vsect c v e.1) ∧
    Rewrote c v m (fun l => l.w F_nextSameHash = b ∧ SameNameArea last l) s.disk s2) (fun s1 r s2 r1 h b hb =>
      have ⟨hfree, h2, hR⟩ := h.chain_healthy r1 pre m last hf hrw hch hlen hno hself hsmall b hb
      have ⟨hrb, hne⟩ := hvol b hfree h2
      ⟨hR.1, hrb, Nat.ne_of_gt (Nat.lt_of_succ_lt h2), hne, hR⟩) hs
  -- what is in another sector than `m` and `b` survives the two writes
  have keep : ∀ {k e}, EntryAt c s.disk v k e → vsect c v m ≠ vsect c v k → vsect c v b ≠ vsect c v k →
      EntryAt c s'.disk v k e := fun he h1 h2 => hN.other (hR2.other he h1) h2
  obtain ⟨_, _, last', _, hE2, hL2, hS2⟩ := hR2
  have hElast := hN.other hE2 (hneC (m, last) (List.mem_append_right _ (List.mem_singleton_self _)))
  obtain ⟨hf', _, hdr, _, hEb, hH, _⟩ := hN
  refine ⟨b, last', hdr, keep hpar hparm hneP, ?_, hS2, C02_name_written_is_name_matched _ name hdr hH.2.1, hf'⟩
  exact ChainOn.rebuild c s.disk _ v m b last last' hdr pre _ hch (fun e he =>
    keep (hch.entryAt_mem e (List.mem_append_left _ he)).1 (hdist e he) (hneC e (List.mem_append_left _ he)))
    hElast hL2 hb0 hEb hH.2.2

/-- … and the lookup returns the appended entry -/
theorem C02_appended_file_is_found (c : Cfg) (v : Nat) (par : Blk) (name : Bytes) (pre : List (Nat × Blk))
    (m b : Nat) (last last' hdr : Blk) (s : St) (hf : s.faultAt = none)
    (hch : ChainOn c s.disk v (par.hash (hashName (useIntl (c.vol v).dosType) name)) (pre ++ [(m, last'), (b, hdr)]))
    (hlen : (pre ++ [(m, last'), (b, hdr)]).length ≤ (c.vol v).lastBlock - (c.vol v).firstBlock + 1)
    (hno : ∀ e ∈ pre ++ [(m, last)], ¬ nameMatches (useIntl (c.vol v).dosType) name e.2)
    (hS : SameNameArea last last') (hm : nameMatches (useIntl (c.vol v).dosType) name hdr) :
    Post (fun _ => False) c (nameToEntryBlk v par name) s (fun r _ => r.1 = some b ∧ r.2.1 = hdr) := by
  refine (nameToEntryBlk_lookup c v par name _ s hf hch hlen).mono ?_
  rintro r _ ⟨rfl, _⟩
  have hpre : ∀ e ∈ pre ++ [(m, last')], ¬ nameMatches (useIntl (c.vol v).dosType) name e.2 := by
    intro e he
    rcases List.mem_append.mp he with he | he
    · exact hno e (List.mem_append_left _ he)
    · obtain rfl := List.mem_singleton.mp he
      exact fun h => hno (m, last) (List.mem_append_right _ (List.mem_singleton_self _))
        ((nameMatches_of_sameNameArea _ name last last' hS).mp h)
  have := lookupSpec_first_match (useIntl (c.vol v).dosType) name (pre ++ [(m, last')]) b hdr [] 0 zeroBlk hpre hm
  rw [List.append_assoc] at this
  rw [show pre ++ [(m, last'), (b, hdr)] = pre ++ ([(m, last')] ++ [(b, hdr)]) from rfl, this]
  exact ⟨rfl, rfl⟩

/-- **Removing the head of a hash chain** (link step of `adfRemoveEntry`, healthy device): the directory on the disk is
    valid, its slot starts the chain of the remaining entries, which are untouched -/
theorem C02_removed_head_is_unlinked (c : Cfg) (v pSect : Nat) (parent : Blk) (name : Bytes) (n : Nat) (b : Blk)
    (post : List (Nat × Blk)) (s : St)
    (hf : s.faultAt = none) (hrw : (c.vol v).readOnly = false) (hpar : EntryAt c s.disk v pSect parent)
    (hch : ChainOn c s.disk v (parent.hash (hashName (useIntl (c.vol v).dosType) name)) ((n, b) :: post))
    (hlen : ((n, b) :: post).length ≤ (c.vol v).lastBlock - (c.vol v).firstBlock + 1)
    (hm : nameMatches (useIntl (c.vol v).dosType) name b)
    (hdist : ∀ e ∈ post, vsect c v pSect ≠ vsect c v e.1) :
    Post AnyFault c (removeEntryUnlink v pSect name) s (fun r s' => r.2.isSome = true →
      ∃ parent', EntryAt c s'.disk v pSect parent' ∧
        ChainOn c s'.disk v (parent'.hash (hashName (useIntl (c.vol v).dosType) name)) post ∧ s'.faultAt = none) := by
  refine (removeEntryUnlink_run c v pSect name s).mono fun r s' h hs => ?_
  -- a step that goes on ended with the link write; the lookup had found `b` with nothing before it: the write went to
  -- the directory block, with the name's slot set to `b`'s link
  cases h with
  | stopped => exact nomatch hs
  | @link _ _ _ _ k j _ _ _ _ look reads target w =>
  obtain ⟨⟩ := (look.healthy hf hpar hch hlen).trans (lookupSpec_match hm)
  obtain ⟨hk, hj⟩ := (if_pos rfl).mp target
  subst k j
  have hR : Rewrote c v pSect (· = withSum (parent.setHash _ (b.w F_nextSameHash)) F_checkSum) _ s' :=
    w.rewrote_setW reads hf hrw hpar (Nat.ne_of_gt (Nat.lt_add_right _ (by decide)))
  have hbw : b.w F_nextSameHash < 4294967296 :=
    Blk.w_lt b (hch.entryAt_mem (n, b) (List.mem_cons_self ..)).1.wf _
  have hpost := ChainOn.transport c s.disk s'.disk v post _ hch.2.2.2 fun e he =>
    hR.other (hch.entryAt_mem e (List.mem_cons_of_mem _ he)).1 (hdist e he)
  obtain ⟨hf', _, _, _, hE, rfl⟩ := hR
  refine ⟨_, hE, ?_, hf'⟩
  rw [show (withSum _ F_checkSum).hash _ = b.w F_nextSameHash from
    (hash_frame (.inl (by decide)) (C15.C15_hash_lt _ _)).trans
      (setHash_hash hpar.wf (C15.C15_hash_lt _ _) hbw)]
  exact hpost

/-- **Removing an inner or last member of a hash chain**: the predecessor is rewritten with only its link changed (its name
    area in particular is untouched), the chain skips the removed entry, directory and other members stay -/
theorem C02_removed_inner_is_unlinked (c : Cfg) (v pSect : Nat) (parent : Blk) (name : Bytes) (pre : List (Nat × Blk))
    (p : Nat) (prev : Blk) (n : Nat) (b : Blk) (post : List (Nat × Blk)) (s : St)
    (hf : s.faultAt = none) (hrw : (c.vol v).readOnly = false) (hpar : EntryAt c s.disk v pSect parent)
    (hch : ChainOn c s.disk v (parent.hash (hashName (useIntl (c.vol v).dosType) name)) (pre ++ (p, prev) :: (n, b) :: post))
    (hlen : (pre ++ (p, prev) :: (n, b) :: post).length ≤ (c.vol v).lastBlock - (c.vol v).firstBlock + 1)
    (hpre : ∀ e ∈ pre ++ [(p, prev)], ¬ nameMatches (useIntl (c.vol v).dosType) name e.2)
    (hm : nameMatches (useIntl (c.vol v).dosType) name b)
    (hdist : ∀ e ∈ pre ++ post, vsect c v p ≠ vsect c v e.1) (hpp : vsect c v p ≠ vsect c v pSect) :
    Post AnyFault c (removeEntryUnlink v pSect name) s (fun r s' => r.2.isSome = true →
      ∃ prev', EntryAt c s'.disk v pSect parent ∧
        ChainOn c s'.disk v (parent.hash (hashName (useIntl (c.vol v).dosType) name)) (pre ++ (p, prev') :: post) ∧
        SameNameArea prev prev' ∧ s'.faultAt = none) := by
  refine (removeEntryUnlink_run c v pSect name s).mono fun r s' h hs => ?_
  have hfirst := lookupSpec_first_match _ name (pre ++ [(p, prev)]) n b post 0 zeroBlk hpre hm
  rw [List.getLast?_concat, List.append_assoc] at hfirst
  have hp := hch.entryAt_mem (p, prev) (List.mem_append_right _ (List.mem_cons_self ..))
  -- a step that goes on ended with the link write; the lookup had found `b` behind `prev`: the write went to block `p`,
  -- with the chain link set to `b`'s link
  cases h with
  | stopped => exact nomatch hs
  | @link _ _ _ _ k j _ _ _ _ look reads target w =>
  obtain ⟨⟩ := (look.healthy hf hpar hch hlen).trans hfirst
  obtain ⟨hk, hj⟩ := (if_neg hp.2).mp target
  subst k j
  have hR := w.rewrote_setW reads hf hrw hp.1 (by decide)
  have hmem : ∀ e ∈ pre ++ post, EntryAt c s'.disk v e.1 e.2 := fun e he =>
    hR.other (hch.entryAt_mem e (by
      rcases List.mem_append.mp he with h | h
      · exact List.mem_append_left _ h
      · exact List.mem_append_right _ (List.mem_cons_of_mem _ (List.mem_cons_of_mem _ h)))).1 (hdist e he)
  have hbw : b.w F_nextSameHash < 4294967296 := Blk.w_lt b
    (hch.entryAt_mem (n, b) (List.mem_append_right _ (List.mem_cons_of_mem _ (List.mem_cons_self ..)))).1.wf _
  have hrel := relinked hp.1.wf hbw rfl fun _ _ _ => rfl
  have hparent := hR.other hpar hpp
  obtain ⟨hf', _, _, _, hE, rfl⟩ := hR
  exact ⟨_, hparent, ChainOn.splice c s.disk s'.disk v p n prev _ b post pre _ hch
    (fun e he => hmem e (List.mem_append_left _ he)) (fun e he => hmem e (List.mem_append_right _ he)) hE hrel.1,
    hrel.2, hf'⟩

/-- non-vacuity of `C02_created_file_is_linked`: on a volume of sane geometry (`GeomOK`: mounted, inside the device, no
    32-bit wrap) whose bitmap marks free only blocks of the volume other than the directory, a directory block with the
    name's slot empty, written by the library's own block writer to its own position, yields a state that meets every
    hypothesis of that theorem (healthy, valid directory at its self pointer, empty slot, free blocks readable and distinct
    from the directory) -/
theorem C02_success_hypotheses_reachable (c : Cfg) (v nParent : Nat) (name : Bytes) (dir0 : Blk) (s0 : St)
    (g : GeomOK c v) (hrw : (c.vol v).readOnly = false) (hf : s0.faultAt = none)
    (hn : nParent ≤ (c.vol v).lastBlock - (c.vol v).firstBlock)
    (hB : ∀ k, bmIsFree (s0.mem.vol v).bitmapTable k = true → k ≤ (c.vol v).lastBlock - (c.vol v).firstBlock ∧ k ≠ nParent)
    (hwf : BlkWF dir0) (hty : dir0.w F_type = T_HEADER) (hst : dir0.secType = ST_DIR) (hkey : dir0.w F_headerKey = nParent)
    (hslot : dir0.hash (hashName (useIntl (c.vol v).dosType) name) = 0) :
    ∃ s, run c (writeEntryBlock v nParent dir0) s0 = (.ok rcOK, s) ∧ s.faultAt = none ∧
      EntryAt c s.disk v nParent (withSum dir0 F_checkSum) ∧ dirKey (c.vol v) (withSum dir0 F_checkSum) = nParent ∧
      (withSum dir0 F_checkSum).hash (hashName (useIntl (c.vol v).dosType) name) = 0 ∧
      (∀ k, bmIsFree (s.mem.vol v).bitmapTable k = true → k < 4294967296) ∧
      (∀ k, bmIsFree (s.mem.vol v).bitmapTable k = true → 2 ≤ k → Readable c v k ∧ vsect c v k ≠ vsect c v nParent) := by
  obtain ⟨hrP, hvP⟩ := readable_of_geom c v nParent g hn
  obtain ⟨s, hrun, hm, hf', _, _, _, hE, rfl⟩ := writeEntryBlock_healthy c v nParent dir0 s0 hf hrP hrw hwf hty
  refine ⟨s, hrun, hf', hE, ?_, ?_, fun k hk => ?_, fun k hk _ => ?_⟩
  · unfold dirKey Blk.secType
    rw [withSum_w_ne (by decide), withSum_w_ne (by decide), if_neg (by rw [show dir0.w F_secType = ST_DIR from hst]; decide)]
    exact hkey
  · exact (hash_frame (.inl (by decide)) (C15.C15_hash_lt _ _)).trans hslot
  · exact Nat.lt_of_le_of_lt (Nat.le_trans (hB k (hm ▸ hk)).1 (Nat.sub_le _ _)) g.2.2.1
  · obtain ⟨hkl, hkn⟩ := hB k (hm ▸ hk)
    obtain ⟨hr, hv⟩ := readable_of_geom c v k g hkl
    exact ⟨hr, hv ▸ hvP ▸ fun h => hkn (Nat.add_right_cancel h)⟩

/-- a block meeting the conditions on `dir0` above exists: a zeroed block with type, self pointer and secondary type set -/
example (n : Nat) (hn : n < 4294967296) (i : Nat) (hi : i < 72) :
    let d := ((zeroBlk.setW F_type T_HEADER).setW F_headerKey n).setW F_secType ST_DIR
    BlkWF d ∧ d.w F_type = T_HEADER ∧ d.secType = ST_DIR ∧ d.w F_headerKey = n ∧ d.hash i = 0 := by
  have hz := zeroBlk_wf
  refine ⟨setW_wf (setW_wf (setW_wf hz)), ?_, ?_, ?_, ?_⟩
  · rw [Blk.w_setW_ne (by decide), Blk.w_setW_ne (by decide)]
    exact Blk.w_setW_same (by rw [hz.1]; decide) (by decide)
  · unfold Blk.secType
    exact Blk.w_setW_same (by rw [Blk.setW_length, Blk.setW_length, hz.1]; decide) (by decide)
  · rw [Blk.w_setW_ne (by decide)]
    exact Blk.w_setW_same (by rw [Blk.setW_length, hz.1]; decide) hn
  · rw [hash_frame (Or.inr (by decide)) hi, hash_frame (Or.inl (by decide)) hi, hash_frame (Or.inl (by decide)) hi]
    exact zeroBlk_w _

/-- **A created directory is linked under its name** (same statement as for files, for `adfCreateDir`'s link + block
    write; the entry found is a directory) -/
theorem C02_created_dir_is_linked (c : Cfg) (v nParent : Nat) (name : Bytes) (parent : Blk) (s : St)
    (hnc : isDIRCACHE (c.vol v).dosType = false) (hf : s.faultAt = none) (hrw : (c.vol v).readOnly = false)
    (hpar : EntryAt c s.disk v nParent parent) (hkey : dirKey (c.vol v) parent = nParent)
    (hslot : parent.hash (hashName (useIntl (c.vol v).dosType) name) = 0)
    (hsmall : ∀ k, bmIsFree (s.mem.vol v).bitmapTable k = true → k < 4294967296)
    (hvol : ∀ k, bmIsFree (s.mem.vol v).bitmapTable k = true → 2 ≤ k → Readable c v k ∧ vsect c v k ≠ vsect c v nParent) :
    Post AnyFault c (createDirLink v nParent name) s (fun r s' => r.2 = true →
      ∃ b par' hdr, EntryAt c s'.disk v nParent par' ∧
        ChainOn c s'.disk v (par'.hash (hashName (useIntl (c.vol v).dosType) name)) [(b, hdr)] ∧
        nameMatches (useIntl (c.vol v).dosType) name hdr ∧ hdr.secType = ST_DIR ∧ s'.faultAt = none) := by
  refine (createDirLink_run c v nParent name s).mono fun r s' h hs => ?_
  obtain ⟨b, s2, ⟨h2, hne, hL⟩, hN⟩ := h.healthy hnc hrw hpar .dir
    (fun _ _ _ r1 h => h.slot_healthy r1 hf hrw hpar hkey hslot hsmall hvol) hs
  obtain ⟨par', hdr, hP, hC, hH, hst⟩ := hL.chain hN h2 hne
  exact ⟨b, par', hdr, hP, hC, C02_name_written_is_name_matched _ name hdr hH.2.1, hst, hN.1⟩

/-- **a file restored by `adfUndelFile` is in its parent again** (success path of undelete; healthy writable device, valid
    parent directory at its own sector `pSect`, the slot of the entry's name empty, the entry's stale link already 0, for
    every block list, volume state and volume type): when the link step reports success, the disk differs from the disk
    before the call in the parent's sector only; that sector holds a valid directory block whose slot for the entry's name
    points to the entry's block; and the entry's own block — still on the disk from before the deletion — is what it was,
    so the lookup of C02_created_file_is_found reaches it. -/
theorem C02_undeleted_file_is_linked (c : Cfg) (v pSect : Nat) (entry parent e0 : Blk) (data exts : List Nat) (s : St)
    (hf : s.faultAt = none) (hrw : (c.vol v).readOnly = false)
    (hpar : EntryAt c s.disk v pSect parent) (hkey : dirKey (c.vol v) parent = pSect)
    (hslot : parent.hash (hashName (useIntl (c.vol v).dosType) (salvName entry)) = 0)
    (hn : entry.w F_nextSameHash = 0) (ht32 : entry.w F_headerKey < 4294967296)
    (hown : EntryAt c s.disk v (entry.w F_headerKey) e0) (hne : vsect c v (entry.w F_headerKey) ≠ vsect c v pSect) :
    Post AnyFault c (undelFileLink v pSect entry data exts) s (fun r s' => r.2.isSome = true →
      s'.faultAt = none ∧ EntryAt c s'.disk v (entry.w F_headerKey) e0 ∧
      ∃ par', EntryAt c s'.disk v pSect par' ∧
        par'.hash (hashName (useIntl (c.vol v).dosType) (salvName entry)) = entry.w F_headerKey) := by
  refine (undelFileLink_spec c v pSect entry data exts s).mono fun r s' h hsome => ?_
  have hR := h.healthy hf hrw hpar hkey hslot hn ht32 hsome
  exact ⟨hR.1, hR.other hown hne.symm, let ⟨_, _, par', _, hE, hh⟩ := hR; ⟨par', hE, hh⟩⟩

end Adf.C02
