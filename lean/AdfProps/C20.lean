/-
  C20 — unadf never writes outside its extraction directory (string side).
  Model: AdfModel/Unadf.lean (`output_name` of examples/unadf.c, POSIX build).
  Spec:  AdfSpec/PathSpec.lean (lexical resolution of a relative path).
  Every path unadf hands to mkdir / open / utimes for an entry is `outputName ed path name`
  or one of its `leadingDirs`.  The theorems say: for every extraction directory, every
  `path` and every `name` (arbitrary byte strings — '..', '/', '\\', absolute, anything), that
  path is  <extract_dir>/  followed by a relative part that stays inside.
  Not covered by a theorem (runtime, see DESIGN.md): symlinks already present in the
  destination, and the host file system itself; these are exercised by running the real
  binary in a sandbox tree.
-/
import AdfProofs.PathLemmas
namespace Adf.C20
open Spec

/-- the prefix contributed by the user's own `-d` argument -/
def userPrefix (ed : Option Bytes) : Bytes :=
  match ed with
  | some d => d ++ [SLASH]
  | none => []

theorem C20_outputName_shape (ed : Option Bytes) (path name : Bytes) :
    outputName ed path name = userPrefix ed ++ outBody path name := by
  cases ed <;> rfl

/-- the image-controlled part of every output path is relative and never leaves its start
    directory, for all byte strings `path` and `name`. -/
theorem C20_body_inside (path name : Bytes) : inside (outBody path name) :=
  (outBody_safe path name).inside

/-- every directory created "on the way" (each prefix of the output path that ends before a
    separator) is either a prefix of the user's own `-d` argument or `<extract_dir>/` followed
    by a relative part that stays inside. -/
theorem C20_leadingDirs_inside (ed : Option Bytes) (path name : Bytes) :
    ∀ p ∈ leadingDirs (outputName ed path name),
      p.length < (userPrefix ed).length ∨
      ∃ rel, p = userPrefix ed ++ rel ∧ inside rel := by
  intro p hp
  rw [C20_outputName_shape] at hp
  simp only [leadingDirs, List.mem_filterMap, List.mem_range] at hp
  obtain ⟨i, hi, hpi⟩ := hp
  split at hpi
  · rename_i hcond
    simp only [Option.some.injEq] at hpi
    subst hpi
    by_cases hlt : i < (userPrefix ed).length
    · exact .inl (List.length_take ▸ Nat.lt_of_le_of_lt (Nat.min_le_left ..) hlt)
    · -- a prefix of the body cut before a '/'
      have hget := hcond.2
      rw [List.length_append] at hi
      rw [List.getD_eq_getElem?_getD, List.getElem?_append_right (Nat.le_of_not_lt hlt), ← List.getD_eq_getElem?_getD] at hget
      refine .inr ⟨(outBody path name).take (i - (userPrefix ed).length), ?_,
        ((outBody_safe path name).take _ (Nat.sub_lt_left_of_lt_add (Nat.le_of_not_lt hlt) hi) hget).inside⟩
      rw [List.take_append, List.take_of_length_le (Nat.le_of_not_lt hlt)]
  · cases hpi

/-- non-vacuity / regression witnesses: the hostile names of the property text
    ("dest" + "..", no -d + "/tmp/x", "a" + "../../b"). -/
example : outputName (some [100,101,115,116]) [] [46,46] = [100,101,115,116,47,120,120] := by
  simp [outputName, outBody, sanitizeDots, neutralizeLead, SLASH, BSLASH, DOT, LX]
example : outputName none [] [47,116,109,112,47,120] = [95,116,109,112,47,120] := by
  simp [outputName, outBody, sanitizeDots, neutralizeLead, SLASH, BSLASH, DOT, USCORE]
example : outputName none [97] [46,46,47,46,46,47,98] = [97,47,120,120,47,120,120,47,98] := by
  simp [outputName, outBody, sanitizeDots, neutralizeLead, SLASH, BSLASH, DOT, LX]

end Adf.C20
