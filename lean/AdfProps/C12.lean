/-
  C12 — Read-only means read-only: no write ever reaches the device.

  Model: every library function is a `Prog` (AdfModel/Prog.lean); the only primitives that can
  append a write event or change the disk are `volWrite` (adfWriteBlock: refuses when
  vol->readOnly) and `devWrite` (adfWrite{RDSK,PART,FSHD,LSEG}block: refuse when dev->readOnly).
  The theorems below are therefore about EVERY program — every API function of the model, in
  any order, with any arguments, on any disk content and under any fault schedule.

  What is modelled rather than proved: that the C functions perform device writes only through
  those two paths, and that vol->readOnly / dev->readOnly are assigned only by open / mount /
  create (checked by the correspondence runs on read-only configurations, tools/props/C12.py,
  which also cover the clause "every mutating call reports failure").
-/
import AdfProofs.ProgLemmas
namespace Adf.C12

/-- the write events a configuration permits: a volume-level write only on a writable volume,
    a raw device write only on a writable device -/
def EvAllowed (c : Cfg) : Ev → Prop
  | .wr (some v) _ _ _ _ => (c.vol v).readOnly = false ∧ (c.vol v).mounted = true
  | .wr none _ _ _ _ => c.devReadOnly = false
  | .rd _ _ _ _ => True

private theorem legal_allowed {c : Cfg} {e : Ev} (h : e.Legal c) : EvAllowed c e := by
  cases e with
  | rd vol n size st => trivial
  | wr vol n size d st =>
    cases vol with
    | some v => exact ⟨h.2.1, h.1⟩
    | none => exact h

/-- every device access any program makes is one the configuration permits -/
theorem C12_events_allowed (c : Cfg) {α : Type} (p : Prog α) (s : St) :
    ∃ evs, (run c p s).2.trace = evs ++ s.trace ∧ ∀ e ∈ evs, EvAllowed c e :=
  let ⟨evs, ht, hl, _⟩ := run_logged c p s; ⟨evs, ht, fun e he => legal_allowed (hl e he)⟩

theorem prim_allowed (c : Cfg) {β : Type} (pr : Prim β) (s : St) :
    ∃ evs, (runPrim c pr s).2.trace = evs ++ s.trace ∧ ∀ e ∈ evs, EvAllowed c e :=
  C12_events_allowed c (.prim pr) s

def isWrite : Ev → Bool
  | .wr .. => true
  | _ => false

/-- a configuration in which nothing may be written: the device is read-only and so is every
    volume (adfMount forces vol->readOnly when dev->readOnly), or the device is writable but the
    volumes are mounted read-only and no raw header write is attempted -/
def AllReadOnly (c : Cfg) : Prop :=
  c.devReadOnly = true ∧ ∀ v, (c.vol v).mounted = true → (c.vol v).readOnly = true

/-- read-only device (all volumes read-only): NO write event, for every program -/
theorem C12_no_write (c : Cfg) (hro : AllReadOnly c) {α : Type} (p : Prog α) (s : St) :
    ∃ evs, (run c p s).2.trace = evs ++ s.trace ∧ ∀ e ∈ evs, isWrite e = false := by
  obtain ⟨evs, h, ha⟩ := C12_events_allowed c p s
  refine ⟨evs, h, ?_⟩
  intro e he
  have := ha e he
  cases e with
  | rd _ _ _ _ => rfl
  | wr vol n size d st =>
    cases vol with
    | some v => simp only [EvAllowed] at this; rw [hro.2 v this.2] at this; exact absurd this.1 (by decide)
    | none => simp only [EvAllowed] at this; rw [hro.1] at this; exact absurd this (by decide)

/-- a volume mounted read-only receives no write, whatever the program, even on a writable device -/
theorem C12_no_write_volume (c : Cfg) (v : Nat) (hro : (c.vol v).readOnly = true) {α : Type} (p : Prog α) (s : St) :
    ∃ evs, (run c p s).2.trace = evs ++ s.trace ∧
      ∀ e ∈ evs, ∀ n size d st, e ≠ Ev.wr (some v) n size d st := by
  obtain ⟨evs, h, ha⟩ := C12_events_allowed c p s
  refine ⟨evs, h, ?_⟩
  intro e he n size d st heq
  have := ha e he
  rw [heq] at this
  simp only [EvAllowed] at this
  rw [hro] at this
  exact absurd this.1 (by decide)

/-- and the image bytes are identical afterwards: the disk of the final state is the disk of the
    initial state, for every program -/
theorem C12_disk_unchanged (c : Cfg) (hro : AllReadOnly c) {α : Type} (p : Prog α) (s : St) :
    (run c p s).2.disk = s.disk := by
  obtain ⟨evs, -, hl, hd⟩ := run_logged c p s
  rw [hd]
  clear hd
  -- no permitted access is a write, so replaying the log changes nothing
  induction evs with
  | nil => rfl
  | cons e evs ih =>
    rw [List.foldr_cons, ih fun e' he' => hl e' (List.mem_cons_of_mem _ he')]
    have he := hl e List.mem_cons_self
    cases e with
    | rd vol n size st => rfl
    | wr vol n size d st =>
      cases vol with
      | some v => exact absurd (hro.2 v he.1) (by rw [he.2.1]; decide)
      | none => exact absurd hro.1 (by rw [show c.devReadOnly = false from he]; decide)

/-- the primitive that models adfWriteBlock reports failure on a read-only volume -/
theorem C12_volWrite_reports (c : Cfg) (v n : Nat) (b : Bytes) (s : St) (hro : (c.vol v).readOnly = true) :
    (run c (volWrite v n b) s).1 = Res.ok rcError := by
  simp only [volWrite, run, runPrim]
  by_cases hm : (c.vol v).mounted = true
  · simp [hm, hro]
  · simp [hm]

/-- non-vacuity: a read-only device with one mounted (hence read-only) DD-floppy volume -/
def exVol : VolCfg := { firstBlock := 0, lastBlock := 1759, rootBlock := 880, readOnly := true, mounted := true }
def exCfg : Cfg := { devReadOnly := true, vols := [exVol] }

example : AllReadOnly exCfg := by
  refine ⟨rfl, ?_⟩
  intro v
  cases v with
  | zero => intro _; rfl
  | succ k => intro h; simp [Cfg.vol, exCfg] at h; exact absurd h (by decide)

end Adf.C12
