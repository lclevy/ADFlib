/-
  C06 — Read compatibility with an independent decoder on any well-formed image.
  The decoder the C library is compared with at run time is tools/fsck.py (validated on AmigaDOS-made dumps) on
  images written by tools/imgwriter.py with randomised layouts.  The model-side theorems say WHY layout cannot
  matter, for every layout rather than the sampled ones:
   * a name is looked up by walking the chain of its hash slot and the result is the first match — independent of
     where the blocks are, in which order the chain links them, and what lies in unrelated blocks (the statement
     only constrains the sectors of the chain itself);
   * the slot of a name and the match test are functions of the name alone (C15);
   * the i-th byte of a file is in data block ⌊i/dbs⌋ at offset i mod dbs (C01), and that block's number is slot
     71 − k of the header for k < 72, else slot 71 − (k−72) mod 72 of extension block ⌊(k−72)/72⌋ (C01);
   * what `adfFileReadNextBlock` puts in the handle's buffer on success IS the disk content of the block it
     designates (C19), whatever else the disk holds;
   * the metadata reported for an entry is a pure function of its 512-byte header block.
  Links, international characters, and the whole-tree comparison are covered by the run-time comparison only.
  (MANIFEST: partial.)
-/
import AdfProofs.FileReadLemmas
import AdfProofs.WriteReadLemmas
namespace Adf.C06

/-- the reference lookup looks at the blocks of the chain, not at their sectors: whether it finds the name and the block
    it hands back are those of the chain with every sector number replaced by 0 -/
private theorem lookupSpec_blocks (intl : Bool) (name : Bytes) : ∀ (l : List (Nat × Blk)) (u : Nat) (b0 : Blk),
    (lookupSpec intl name l u b0).1.isSome = (lookupSpec intl name ((l.map (·.2)).map fun b => (0, b)) 0 b0).1.isSome ∧
    (lookupSpec intl name l u b0).2.1 = (lookupSpec intl name ((l.map (·.2)).map fun b => (0, b)) 0 b0).2.1 := by
  intro l
  induction l with
  | nil => exact fun _ _ => ⟨rfl, rfl⟩
  | cons a l ih =>
    obtain ⟨m, b⟩ := a
    intro u b0
    by_cases hm : nameMatches intl name b
    · simp only [List.map_cons]
      rw [lookupSpec_match hm, lookupSpec_match hm]; exact ⟨rfl, rfl⟩
    cases l with
    | nil =>
      simp only [List.map_cons, List.map_nil]
      rw [lookupSpec_single hm, lookupSpec_single hm]; exact ⟨rfl, rfl⟩
    | cons x l =>
      simp only [List.map_cons] at ih ⊢
      rw [lookupSpec_step hm, lookupSpec_step hm]; exact ih m b

/-- layout independence of lookup: two disks that agree on the sectors of the chain give the same answer.
    (Stated through the abstract chain: the result is `lookupSpec` of the chain, which does not mention the disk.) -/
theorem C06_lookup_layout_independent (c : Cfg) (v : Nat) (intl : Bool) (name : Bytes)
    (chain1 chain2 : List (Nat × Blk)) (n1 n2 fuel : Nat) (s1 s2 : St)
    (hne : chain1 ≠ []) (hl1 : chain1.length ≤ fuel) (hl2 : chain2.length ≤ fuel)
    (hf1 : s1.faultAt = none) (hf2 : s2.faultAt = none)
    (hc1 : ChainOn c s1.disk v n1 chain1) (hc2 : ChainOn c s2.disk v n2 chain2)
    (hsame : chain1.map (·.2) = chain2.map (·.2)) :
    ∃ r1 r2 t1 t2, run c (nameToEntryBlkLoop v intl name fuel n1 0) s1 = (.ok r1, t1) ∧
                   run c (nameToEntryBlkLoop v intl name fuel n2 0) s2 = (.ok r2, t2) ∧
                   r1.1.isSome = r2.1.isSome ∧ r1.2.1 = r2.2.1 := by
  have hne2 : chain2 ≠ [] := fun h => hne (List.map_eq_nil_iff.mp (hsame.trans (h ▸ rfl)))
  obtain ⟨r1, t1, h1, rfl, _⟩ := (nameToEntryBlkLoop_lookup c v intl name chain1 fuel n1 0 zeroBlk s1 hne hl1 hf1 hc1).returns
  obtain ⟨r2, t2, h2, rfl, _⟩ := (nameToEntryBlkLoop_lookup c v intl name chain2 fuel n2 0 zeroBlk s2 hne2 hl2 hf2 hc2).returns
  refine ⟨_, _, t1, t2, h1, h2, ?_⟩
  have b1 := lookupSpec_blocks intl name chain1 0 zeroBlk
  rw [hsame] at b1
  have b2 := lookupSpec_blocks intl name chain2 0 zeroBlk
  exact ⟨b1.1.trans b2.1.symm, b1.2.trans b2.2.symm⟩

/-- the buffer after a successful next-block IS the designated block's disk content (C19), any layout -/
theorem C06_buffer_is_disk_content (c : Cfg) (h : FileH) (s : St) :
    Post AnyFault c (fileReadNextBlock h) s (fun r s' =>
      r.1 = rcOK → r.2.curData = padTo ((s.sector (vsect c h.vol r.2.curDataPtr)).take 512) 512) :=
  (fileReadNextBlock_spec c h s).anyFault.mono fun _ _ n hok => (n.ok hok).2.2.1

/-- entry metadata is a function of the header block alone -/
theorem C06_metadata_function_of_block (b1 b2 : Blk) (h : b1 = b2) : entBlock2Entry b1 = entBlock2Entry b2 := by
  rw [h]

/-- what `adfWriteEntryBlock` stores, `adfReadEntryBlock` accepts (C03 side of read compatibility): after a successful
    write of a well-formed header struct the sector holds a valid entry block, namely the struct with its checksum -/
theorem C06_written_entry_is_readable (c : Cfg) (v n : Nat) (e : Blk) (s : St) (hf : s.faultAt = none)
    (hr : Readable c v n) (hrw : (c.vol v).readOnly = false) (hwf : BlkWF e) (hty : e.w F_type = T_HEADER) :
    ∃ s', run c (writeEntryBlock v n e) s = (.ok rcOK, s') ∧ s'.faultAt = none ∧ s'.mem = s.mem ∧
          EntryAt c s'.disk v n (withSum e F_checkSum) :=
  let ⟨s', hrun, hm, hf', _, _, _, hE, he⟩ := writeEntryBlock_healthy c v n e s hf hr hrw hwf hty
  ⟨s', hrun, hf', hm, he ▸ hE⟩

end Adf.C06
