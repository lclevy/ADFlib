/-
  C10 — Hostile images: the guards of the read path, for EVERY byte string.
  No well-formedness hypothesis anywhere in this file: the device content is arbitrary.
  Theorems: a block image decoded from any 512 bytes has exactly 128 words below 2^32 (every word/byte accessor is
  in range); names and comments handed to the caller are clamped to 30 / 79 bytes; a parsed cache record lies
  inside the 488-byte record area (C07); hash slots are < 72; the bitmap loader never indexes past the table it
  allocated, whatever page pointers the root block and the extension blocks contain; block numbers taken from
  the image reach the device only through the range-checked primitive (C13).
  Partial by nature (MANIFEST): real memory behaviour is observed by ASan/UBSan on mutated images.
-/
import AdfProofs.BlkLemmas
import AdfProps.C07
import AdfProps.C15
import AdfProofs.BitmapLoad
import AdfProofs.SeekLemmas
namespace Adf.C10

theorem wordsOf_length : ∀ (n : Nat) (b : Bytes), b.length = 4 * n → (wordsOf b).length = n :=
  Adf.wordsOf_length

theorem padTo_length (b : Bytes) (n : Nat) : (padTo b n).length = n := Adf.padTo_length b n

/-- any byte string decodes to a full block image: 128 words, each below 2^32 -/
theorem C10_block_image_total (b : Bytes) :
    (blkOfBytes b).length = 128 ∧ ∀ w ∈ blkOfBytes b, w < 4294967296 := blkOfBytes_wf b

theorem cstr_length_le (b : Bytes) : (cstr b).length ≤ b.length := (List.takeWhile_sublist _).length_le

theorem Blk_bytes_length (b : Blk) (off len : Nat) : (b.bytes off len).length = len := Blk.bytes_length b off len

/-- whatever a header block contains, the name reported to the caller has at most 30 bytes and the comment at
    most 79 (the C code copies them into 80-byte buffers) -/
theorem C10_entry_strings_clamped (b : Blk) :
    (entBlock2Entry b).name.length ≤ 30 ∧ ∀ c, (entBlock2Entry b).comment = some c → c.length ≤ 79 := by
  let P : EntryInfo → Prop := fun e => e.name.length ≤ 30 ∧ ∀ c, e.comment = some c → c.length ≤ 79
  have clamp : ∀ off len m, (cstr (b.bytes off (min len m))).length ≤ m := fun off len m =>
    Nat.le_trans (cstr_length_le _) (by rw [Blk.bytes_length]; exact Nat.min_le_right _ _)
  have some_le : ∀ c, some (cstr (b.bytes O_comment (min b.commLen 79))) = some c → c.length ≤ 79 :=
    fun c hc => Option.some.inj hc ▸ clamp _ _ _
  show P (entBlock2Entry b)
  unfold entBlock2Entry
  exact iteInduction (fun _ => ⟨clamp _ _ _, some_le⟩) fun _ => iteInduction (fun _ => ⟨clamp _ _ _, some_le⟩)
    fun _ => iteInduction (fun _ => ⟨clamp _ _ _, fun c hc => nomatch hc⟩) fun _ => ⟨clamp _ _ _, fun c hc => nomatch hc⟩

/-- a cache record parsed from ANY bytes is inside the record area, with a 1..30-byte name and a 0..79-byte comment
    (the C parser copies them into name[31] / comm[80] and NUL-terminates at nLen / cLen) -/
theorem C10_cache_record_guarded (ra : Bytes) (ptr : Nat) (e : CacheEntry) (p : Nat)
    (h : getCacheEntry ra ptr = some (e, p)) :
    e.nLen ≤ 30 ∧ e.cLen ≤ 79 ∧ ptr + 24 + e.nLen + 1 + e.cLen ≤ 488 ∧ e.name.length ≤ 30 ∧ e.comm.length ≤ 79 := by
  obtain ⟨_, h2, h3, h4, h5, h6, _⟩ := C07.C07_record_in_bounds ra ptr e p h
  exact ⟨h2, h3, h4, Nat.le_trans h5 h2, Nat.le_trans h6 h3⟩

/-- the hash slot of any name indexes the 72-entry table -/
theorem C10_hash_slot (intl : Bool) (name : Bytes) : hashName intl name < 72 := C15.C15_hash_lt intl name

/-- block numbers below 2 (boot blocks) or negative are refused before any data block is read -/
theorem C10_data_pointer_guard (n : Nat) (h : sectLt2 n = false) : 2 ≤ n ∧ n < 2147483648 := sectLt2_false h

/-- **the bitmap loader never indexes past the table it allocated**: for any root block, any volume size, any
    device content (page pointers, extension chains, cycles) and any I/O fault schedule, `adfReadBitmap` returns
    normally or stops on the model's step bound — never on an out-of-bounds table access (the heap overflow the
    original code had for images with more pages than the volume size implies). -/
theorem C10_readBitmap_never_oob (c : Cfg) (v nBlock : Nat) (root : Blk) (s : St) :
    match run c (readBitmap v nBlock root) s with
    | (.ok _, _) => True
    | (.fault f, _) => f.isOob = false := by
  obtain ⟨_, _, hr, _⟩ := (readBitmap_spec (F := fun _ => False) c v nBlock root s).returns
  rw [hr]; trivial

/-- **the file read path never dereferences a missing extension buffer nor indexes outside it**, whatever the image
    contains (block counts, extension chains, pointers) and whichever accesses fail: on a read-mode handle that holds no
    block or whose extension cursor is usable (true of every fresh handle: its block index is 0), `adfFileRead` —
    including every seek it performs — ends normally or on the model's step bound, never on an out-of-bounds access, and
    leaves the handle in such a state again.  (In C the sites are `file->currentExt->…` with a NULL pointer and
    `dataBlocks[71 - posInExtBlk]`.) -/
theorem C10_fileRead_never_oob (c : Cfg) (h : FileH) (n : Nat) (s : St) (hro : h.modeWrite = false) (hx : ExtW c h) :
    Post NoOob c (fileRead h n) s (fun r _ => ExtW c r.2 ∧ r.2.vol = h.vol ∧ r.2.modeWrite = h.modeWrite) :=
  ((fileRead_spec c s.disk h n s hro rfl).noOob hx).mono fun _ _ x => ⟨x.ext hx, x.same.2.1, x.same.1⟩

/-- the same for an explicit seek; on success the cursor is usable -/
theorem C10_seek_never_oob (c : Cfg) (h : FileH) (pos : Nat) (s : St) (hro : h.modeWrite = false) (hx : ExtW c h) :
    Post NoOob c (seek h pos) s (fun r _ =>
      ExtW c r.2 ∧ (r.1 = rcOK → ExtOK c r.2) ∧ r.2.vol = h.vol ∧ r.2.modeWrite = h.modeWrite) :=
  ((seek_family c s.disk SEEK_FUEL).1 h pos s hro rfl).mono fun _ _ x =>
    ⟨(x.ext hx).1, (x.ext hx).2, x.same.2.1, x.same.1⟩

/-- a handle that has not read any block yet has a usable cursor: the premise above is reachable -/
example (c : Cfg) (h : FileH) (h0 : h.nDataBlock = 0) : ExtW c h := .inr (.of_le (h0 ▸ Nat.zero_le _))

end Adf.C10
