/-
  C04 — Allocation soundness: the bitmap kernel and the allocator contract.
  Model: AdfModel/Bitmap.lean — `bmIsFree` / `bmSetWord` (adfIsBlockFree / adfSetBlockFree / adfSetBlockUsed:
  page = (n-2)/4064, word = 1 + ((n-2)/32)%127, bit = (n-2)%32, bit set = free) and `scanFree` (the circular scan
  of adfGetFreeBlocks from the root block, wrapping lastBlock → 2, stopping back at the root).
  `getFreeBlocks v nb` in the model is `scanFree table root last (last+2) root nb`, accepted only when it found
  all `nb` blocks, followed by `setBlockUsed` on each.
  NOT proved (MANIFEST): that on every reachable state the reachable blocks are exactly the non-free ones; that is
  checked at every quiescent point of the explored histories by the independent decoder.
-/
import AdfProofs.BitmapLemmas
import AdfProofs.Undelete
namespace Adf.C04

/-- marking a block used / free changes the state of that block … -/
theorem C04_set_same (tbl : List Blk) (n : Nat) (f : Bool) (hwf : TableWF tbl)
    (hpg : (n - 2) / BM_PAGE_BLOCKS < tbl.length) : bmIsFree (bmSetWord tbl n f) n = f :=
  bmIsFree_set_same tbl n f hwf hpg

/-- … and of no other block of the volume (no two blocks share a bit) -/
theorem C04_set_other (tbl : List Blk) (n m : Nat) (f : Bool) (hwf : TableWF tbl) (hn : 2 ≤ n) (hm : 2 ≤ m)
    (hne : n ≠ m) (hpg : (n - 2) / BM_PAGE_BLOCKS < tbl.length) :
    bmIsFree (bmSetWord tbl n f) m = bmIsFree tbl m :=
  bmIsFree_set_other tbl n m f hwf hn hm hne hpg

/-- what the allocator's scan returns: free blocks only, inside [2, last] (never a boot block, never outside
    the volume), pairwise distinct, at most the number asked for -/
theorem C04_alloc_contract (tbl : List Blk) (root last fuel nb : Nat) (hroot : 2 < root) (hr : root ≤ last)
    (hf : last ≤ fuel) :
    let l := scanFree tbl root last fuel root nb
    (∀ b ∈ l, bmIsFree tbl b = true ∧ 2 ≤ b ∧ b ≤ last) ∧ l.Nodup ∧ l.length ≤ nb := by
  rw [scanFree_circ tbl root last fuel nb hroot hr hf]
  refine ⟨fun b hb => ?_, ((circ_nodup root last hroot).filter _).sublist (List.take_sublist _ _), List.length_take_le _ _⟩
  have hb' := List.mem_filter.1 (List.mem_of_mem_take hb)
  exact ⟨hb'.2, (mem_circ root last b hroot hr).1 hb'.1⟩

/-- completeness: when the scan comes back with fewer blocks than asked for, it has returned EVERY free block of
    the volume — the allocator reports "full" only when fewer than `nb` blocks are free -/
theorem C04_scan_complete (tbl : List Blk) (root last fuel nb : Nat) (hroot : 2 < root) (hr : root ≤ last)
    (hf : last ≤ fuel) (hshort : (scanFree tbl root last fuel root nb).length < nb) :
    ∀ b, 2 ≤ b → b ≤ last → bmIsFree tbl b = true → b ∈ scanFree tbl root last fuel root nb := by
  intro b h2 hl hfree
  rw [scanFree_length tbl root last fuel nb hroot hr hf] at hshort
  rw [scanFree_circ tbl root last fuel nb hroot hr hf, List.take_of_length_le (by omega), List.mem_filter]
  exact ⟨(mem_circ root last b hroot hr).2 ⟨h2, hl⟩, hfree⟩

/-- conversely, when at least `nb` blocks are free the scan finds `nb` of them -/
theorem C04_scan_succeeds (tbl : List Blk) (root last fuel nb : Nat) (hroot : 2 < root) (hr : root ≤ last)
    (hf : last ≤ fuel) (henough : nb ≤ ((circ root last).filter (bmIsFree tbl)).length) :
    (scanFree tbl root last fuel root nb).length = nb := by
  rw [scanFree_length tbl root last fuel nb hroot hr hf]
  exact Nat.min_eq_left henough

def markUsed (tbl : List Blk) (l : List Nat) : List Blk := l.foldl (fun t b => bmSetWord t b false) tbl

/-- marking the blocks of an allocation used: afterwards none of them is free and every other block of the
    volume is as before -/
theorem C04_markUsed (l : List Nat) : ∀ (tbl : List Blk), TableWF tbl →
    (∀ b ∈ l, 2 ≤ b ∧ (b - 2) / BM_PAGE_BLOCKS < tbl.length) →
    (∀ b ∈ l, bmIsFree (markUsed tbl l) b = false) ∧
    (∀ m, 2 ≤ m → m ∉ l → bmIsFree (markUsed tbl l) m = bmIsFree tbl m) ∧ TableWF (markUsed tbl l) := by
  induction l with
  | nil => exact fun tbl hwf _ => ⟨nofun, fun _ _ _ => rfl, hwf⟩
  | cons a l ih =>
    intro tbl hwf hin
    obtain ⟨ha2, hapg⟩ := hin a List.mem_cons_self
    obtain ⟨h1, h2, h3⟩ := ih (bmSetWord tbl a false) (bmSetWord_wf tbl a false hwf)
      (fun b hb => (bmSetWord_length ..).symm ▸ hin b (List.mem_cons_of_mem _ hb))
    refine ⟨fun b hb => ?_, fun m hm hnot => ?_, h3⟩
    · by_cases hbl : b ∈ l
      · exact h1 b hbl
      · obtain rfl : b = a := (List.mem_cons.1 hb).resolve_right hbl
        exact (h2 b ha2 hbl).trans (bmIsFree_set_same tbl b false hwf hapg)
    · rw [List.mem_cons, not_or] at hnot
      exact (h2 m hm hnot.2).trans (bmIsFree_set_other tbl a m false hwf ha2 hm (Ne.symm hnot.1) hapg)

/-- non-vacuity: a 40-block volume (root 20), one page, blocks 2..39 free except 20 and 21: the hypotheses
    of the contract hold and the first three blocks handed out are 22, 23, 24; asking for 37 fails (36 free) -/
def smallTbl : List Blk := [[0, 0xFFF3FFFF, 0x3F] ++ List.replicate 125 0]

example : scanFree smallTbl 20 39 41 20 3 = [22, 23, 24] ∧ (scanFree smallTbl 20 39 41 20 37).length = 36 ∧
          bmIsFree smallTbl 20 = false ∧ bmIsFree smallTbl 39 = true ∧
          bmIsFree (markUsed smallTbl [22, 23, 24]) 23 = false ∧ bmIsFree (markUsed smallTbl [22, 23, 24]) 25 = true := by
  decide

/-! ## Undelete (src/adf_salv.c, model AdfModel/Salv.lean) -/

/-- **writing the bitmap out never changes the free map**: `adfUpdateBitmap`, on any disk content and under any fault
    schedule, leaves the in-memory table the allocator works from exactly as it was -/
theorem C04_update_bitmap_keeps_free_map (c : Cfg) (v : Nat) (s : St) :
    Post AnyFault c (updateBitmap v) s (fun _ s' => (s'.mem.vol v).bitmapTable = (s.mem.vol v).bitmapTable) :=
  (updateBitmap_spec c v s).mono fun _ _ h => h.1

/-- **an undeleted file has all its blocks allocated**: for every disk content, entry block, block lists, volume type
    (with or without directory cache) and fault schedule, when `adfUndelFile` — from the point where it has the file's
    block lists — reports success, the header block and every data and extension block are inside the volume (≥ 2) and
    marked used in the free map, so no later allocation can hand one of them out. -/
theorem C04_undeleted_file_is_allocated (c : Cfg) (v pSect : Nat) (entry : Blk) (data exts : List Nat) (s : St)
    (hwf : TableWF (s.mem.vol v).bitmapTable) :
    Post AnyFault c (undelFileRest v pSect entry data exts) s
      (fun rc s' => rc = rcOK → ∀ k, (k = entry.w F_headerKey ∨ k ∈ data ∨ k ∈ exts) →
        2 ≤ k ∧ bmIsFree (s'.mem.vol v).bitmapTable k = false) :=
  (undelFileRest_spec c v pSect entry data exts s).mono fun _ _ h hrc k hk =>
    (h.marks hwf hrc).2 k (List.mem_cons.mpr (hk.imp_right List.mem_append.mpr))

/-- **an undeleted directory has its block allocated, and on a DIRCACHE volume its cache block too** -/
theorem C04_undeleted_dir_is_allocated (c : Cfg) (v pSect : Nat) (entry : Blk) (s : St)
    (hwf : TableWF (s.mem.vol v).bitmapTable) :
    Post AnyFault c (undelDir v pSect entry) s
      (fun rc s' => rc = rcOK →
        (2 ≤ entry.w F_headerKey ∧ bmIsFree (s'.mem.vol v).bitmapTable (entry.w F_headerKey) = false) ∧
        (isDIRCACHE (c.vol v).dosType = true →
          2 ≤ entry.w F_extension ∧ bmIsFree (s'.mem.vol v).bitmapTable (entry.w F_extension) = false)) :=
  (undelDir_spec c v pSect entry s).mono fun _ _ h hrc =>
    ⟨(h.marks hwf hrc).1.2 _ List.mem_cons_self, fun hd => ((h.marks hwf hrc).2 hd).2 _ List.mem_cons_self⟩

/-- **`adfUndelEntry`: what it restores is allocated afterwards** — for every volume state, disk content, parent and sector
    number and fault schedule: when the call reports success and the block at `nSect` is a file header or a directory,
    the block that block names as its own (`headerKey`, the one that gets linked into the parent) is ≥ 2 and marked used. -/
theorem C04_undelete_entry_is_allocated (c : Cfg) (v pSect nSect : Nat) (s : St) (hwf : TableWF (s.mem.vol v).bitmapTable) :
    Post AnyFault c (undelEntry v pSect nSect) s (fun rc s' => rc = rcOK →
      let e := blkOfBytes ((s.sector (vsect c v nSect)).take 512)
      (e.secType = ST_FILE ∨ e.secType = ST_DIR) →
        2 ≤ e.w F_headerKey ∧ bmIsFree (s'.mem.vol v).bitmapTable (e.w F_headerKey) = false) := by
  unfold undelEntry
  apply Post.bind; apply Post.readEntryBlock
  intro rc b s1 r1 _
  refine Post.ite (fun h => Post.pure fun hk => absurd hk h) (fun hrc => ?_)
  obtain rfl := r1.ok (Classical.not_not.mp hrc)
  have hwf1 : TableWF (s1.mem.vol v).bitmapTable := by rw [r1.reads.mem]; exact hwf
  refine Post.ite (fun _ => ?_) (fun hf => Post.ite (fun _ => ?_) (fun hd => ?_))
  · exact (undelFile_spec c v pSect _ s1 hwf1).mono fun _ _ h hk _ => (h.1 hk).2 _ List.mem_cons_self
  · exact (undelDir_spec c v pSect _ s1).mono fun _ _ h hk _ => (h.marks hwf1 hk).1.2 _ List.mem_cons_self
  · exact Post.pure fun _ he => he.elim (absurd · hf) (absurd · hd)

/-- **adding a record to a directory cache never releases a block** (`adfAddInCache` may allocate one) -/
theorem C04_add_in_cache_releases_nothing (c : Cfg) (v : Nat) (parent entry : Blk) (k : Nat) (s : St)
    (hwf : TableWF (s.mem.vol v).bitmapTable) (hk : 2 ≤ k) (hused : bmIsFree (s.mem.vol v).bitmapTable k = false) :
    Post AnyFault c (addInCache v parent entry) s (fun _ s' => bmIsFree (s'.mem.vol v).bitmapTable k = false) :=
  (addInCache_noRelease c v parent entry s).mono fun _ _ h =>
    ((h [k] ⟨hwf, fun _ hj => List.mem_singleton.mp hj ▸ ⟨hk, hused⟩⟩).2 k List.mem_cons_self).2

/-- the marking loop of `adfUndelFile` stops at the first block that is not free, having marked none after it (the count it
    reports is short, the call then gives everything back and fails): a block that two deleted files claim is never given
    to both -/
theorem C04_mark_refuses_used_block (c : Cfg) (v b : Nat) (bs : List Nat) (s : St)
    (hin : bmInTable (s.mem.vol v) b = true) (hused : bmIsFree (s.mem.vol v).bitmapTable b = false) :
    run c (markWhileFree v (b :: bs)) s = (.ok 0, s) := by
  unfold markWhileFree isBlockFree
  simp [run_bind', hin, hused]

/-- **`adfGetDelEnt` only looks, and what it lists is free**: for every disk content, volume state and fault schedule,
    listing the deleted entries leaves the disk, the library's memory (hence the free map) and the log of device writes as
    they were; and every entry of the list sits in a block of the volume — number 2 .. lastBlock - firstBlock, relative to
    the volume — that the free map has free: the blocks `adfUndelEntry` will be asked to take back. -/
theorem C04_deleted_entries_are_free_blocks (c : Cfg) (v : Nat) (s : St) :
    Post AnyFault c (getDelEnt v) s (fun r s' => Untouched s s' ∧ ∀ L, r = some L → ∀ e ∈ L,
      2 ≤ e.2.1 ∧ e.2.1 ≤ (c.vol v).lastBlock - (c.vol v).firstBlock ∧ bmIsFree (s.mem.vol v).bitmapTable e.2.1 = true) := by
  unfold getDelEnt
  apply Post.bind; apply Post.getVolCfg
  refine (getDelScan_spec c v _ [] s).mono ?_
  rintro r s' ⟨hq, hL⟩
  refine ⟨hq.untouched, fun L hr e he => ?_⟩
  obtain ⟨h1, h2⟩ := (hL L hr e he).resolve_left List.not_mem_nil
  have hlt := List.mem_range.mp (List.mem_of_mem_drop h1)
  obtain ⟨k, hk, hke⟩ := List.mem_iff_getElem.mp h1
  rw [List.getElem_drop, List.getElem_range] at hke
  exact ⟨by omega, by omega, h2⟩

end Adf.C04
