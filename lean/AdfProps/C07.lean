/-
  C07 — Directory-cache coherence: the record codec and its bounds.
  Model: AdfModel/Cache.lean — `getCacheEntry` (adfGetCacheEntry on the 488-byte record area), `putCacheEntry`
  (adfPutCacheEntry), `cacheEntryLen`, `skipRecords`.
  Theorems: whatever bytes a cache block holds, a successfully parsed record lies entirely inside the 488-byte
  record area, its name is 1..30 and its comment 0..79 bytes long, and parsing always advances (so a block holds
  at most 18 records and the record loops end); and the parser reads back exactly what the writer stored.
  NOT proved (MANIFEST): coherence (cached listing = hash listing) as an invariant of histories; decided on
  explored histories by the independent decoder and the listing comparison.
-/
import AdfProofs.CacheLemmas
namespace Adf.C07

theorem getCacheEntry_some (ra : Bytes) (ptr : Nat) (e : CacheEntry) (p : Nat)
    (h : getCacheEntry ra ptr = some (e, p)) :
    let nLen := (ra.getD (ptr + 23) 0).toNat
    let cLen := (ra.getD (ptr + 24 + nLen) 0).toNat
    ptr ≤ 462 ∧ 1 ≤ nLen ∧ nLen ≤ 30 ∧ ptr + 24 + nLen < 488 ∧ cLen ≤ 79 ∧ ptr + 24 + nLen + 1 + cLen ≤ 488 ∧
    e.nLen = nLen ∧ e.cLen = cLen ∧ e.name = slice ra (ptr + 24) nLen ∧ e.comm = slice ra (ptr + 24 + nLen + 1) cLen ∧
    p = (if (ptr + 24 + nLen + 1 + cLen) % 2 ≠ 0 then ptr + 24 + nLen + 1 + cLen + 1 else ptr + 24 + nLen + 1 + cLen) := by
  unfold getCacheEntry REC_AREA at h
  dsimp only at h ⊢
  obtain ⟨c1, h⟩ := Option.ite_none_left_eq_some.mp h
  obtain ⟨c2, h⟩ := Option.ite_none_left_eq_some.mp h
  obtain ⟨c3, h⟩ := Option.ite_none_left_eq_some.mp h
  obtain ⟨c4, h⟩ := Option.ite_none_left_eq_some.mp h
  obtain ⟨c5, h⟩ := Option.ite_none_left_eq_some.mp h
  injection h with h
  injection h with he hp
  subst he
  exact ⟨Nat.le_of_not_lt c1, Nat.le_of_not_lt fun h => c2 (Or.inl h), Nat.le_of_not_lt fun h => c2 (Or.inr h),
    Nat.lt_of_not_le c3, Nat.le_of_not_lt c4, Nat.le_of_not_lt c5, rfl, rfl, rfl, rfl, hp.symm⟩

/-- bounds: for EVERY byte string, a parsed record is inside the 488-byte record area and has legal lengths -/
theorem C07_record_in_bounds (ra : Bytes) (ptr : Nat) (e : CacheEntry) (p : Nat)
    (h : getCacheEntry ra ptr = some (e, p)) :
    1 ≤ e.nLen ∧ e.nLen ≤ 30 ∧ e.cLen ≤ 79 ∧ ptr + 24 + e.nLen + 1 + e.cLen ≤ REC_AREA ∧
    e.name.length ≤ e.nLen ∧ e.comm.length ≤ e.cLen ∧ p ≤ REC_AREA + 1 := by
  obtain ⟨h1, h2, h3, h4, h5, h6, hn, hc, hname, hcomm, hp⟩ := getCacheEntry_some ra ptr e p h
  rw [hn, hc, hname, hcomm, hp]
  refine ⟨h2, h3, h5, h6, List.length_take_le _ _, List.length_take_le _ _, ?_⟩
  split
  · exact Nat.succ_le_succ h6
  · exact Nat.le_succ_of_le h6

/-- progress: a successful parse advances by at least 26 bytes, so at most 18 records can be parsed from a block,
    whatever `recordsNb` claims -/
theorem C07_parse_advances (ra : Bytes) (ptr : Nat) (e : CacheEntry) (p : Nat)
    (h : getCacheEntry ra ptr = some (e, p)) : ptr + 26 ≤ p ∧ ptr ≤ 462 := by
  obtain ⟨h1, h2, -, -, -, -, -, -, -, -, hp⟩ := getCacheEntry_some ra ptr e p h
  refine ⟨?_, h1⟩
  rw [hp]
  split <;> omega

theorem C07_at_most_18_records (ra : Bytes) (n : Nat) (hn : 19 ≤ n) : skipRecords ra n 0 = none := by
  -- `k + 1` records from `off` need `off + 26 * k ≤ 462`
  have key : ∀ (k off : Nat), 462 < off + 26 * k → skipRecords ra (k + 1) off = none := by
    intro k
    induction k with
    | zero =>
      intro off hgt
      rw [skipRecords]
      cases hg : getCacheEntry ra off with
      | none => rfl
      | some r => have := (C07_parse_advances ra off r.1 r.2 hg).2; omega
    | succ k ih =>
      intro off hgt
      rw [skipRecords]
      cases hg : getCacheEntry ra off with
      | none => rfl
      | some r => exact ih r.2 (by have := (C07_parse_advances ra off r.1 r.2 hg).1; omega)
  obtain ⟨k, rfl⟩ : ∃ k, n = k + 1 := ⟨n - 1, by omega⟩
  exact key k 0 (by omega)

/-- the writer's record length is what the parser will step over (even, 26 … 134) -/
theorem C07_len_even (e : CacheEntry) : cacheEntryLen e % 2 = 0 ∧ 25 + e.nLen + e.cLen ≤ cacheEntryLen e ∧
    cacheEntryLen e ≤ 26 + e.nLen + e.cLen := by
  have h26 : 25 + e.nLen + e.cLen + 1 = 26 + e.nLen + e.cLen := by omega
  unfold cacheEntryLen
  dsimp only
  split
  · exact ⟨‹_›, Nat.le_refl _, h26 ▸ Nat.le_succ _⟩
  · rename_i hodd
    exact ⟨by rw [Nat.add_mod, Nat.mod_two_ne_zero.mp hodd], Nat.le_succ _, Nat.le_of_eq h26⟩

/-- the record as the writer lays it out in bytes 0..11 -/
def headBytes (e : CacheEntry) : Bytes := be32 e.header ++ (be32 e.size ++ be32 e.protect)

/-- the record as the writer lays it out behind bytes 0..15 -/
def tailBytes (e : CacheEntry) : Bytes :=
  be16 e.days ++ be16 e.mins ++ be16 e.ticks ++ [UInt8.ofNat e.type, UInt8.ofNat e.nLen] ++ e.name.take e.nLen ++
    [UInt8.ofNat e.cLen] ++ e.comm.take e.cLen

structure RecOK (e : CacheEntry) : Prop where
  n1 : 1 ≤ e.nLen
  n30 : e.nLen ≤ 30
  c79 : e.cLen ≤ 79
  nameLen : e.name.length = e.nLen
  commLen : e.comm.length = e.cLen
  hdr : e.header < 4294967296
  size : e.size < 4294967296
  prot : e.protect < 4294967296
  days : e.days < 65536
  mins : e.mins < 65536
  ticks : e.ticks < 65536
  type : e.type < 256

theorem tailBytes_length (e : CacheEntry) (h : RecOK e) : (tailBytes e).length = 9 + e.nLen + e.cLen := by
  unfold tailBytes
  simp only [List.length_append, List.length_take, h.nameLen, h.commLen, Nat.min_self]
  show 2 + 2 + 2 + 2 + e.nLen + 1 + e.cLen = _
  omega

/-- **the parser reads the writer's layout**: a record area that holds `headBytes e` at `ptr` and `tailBytes e` at
    `ptr + 16` parses there to `e`, whatever else it holds -/
theorem getCacheEntry_of_layout (r : Bytes) (ptr : Nat) (e : CacheEntry) (h : RecOK e)
    (hfit : ptr + 25 + e.nLen + e.cLen ≤ 488) (hpe : ptr % 2 = 0) (hH : slice r ptr 12 = headBytes e)
    (hT : slice r (ptr + 16) (9 + e.nLen + e.cLen) = tailBytes e) :
    getCacheEntry r ptr = some (e, ptr + cacheEntryLen e) := by
  have hn1 := h.n1; have hn30 := h.n30; have hc79 := h.c79
  -- the parser's five guards fail and its step is the record length; where the variable fields lie in the tail
  obtain ⟨c1, c2, c3, c4, c5, hnext⟩ : ¬ ptr > 488 - 26 ∧ ¬ (e.nLen < 1 ∨ e.nLen > 30) ∧ ¬ ptr + 24 + e.nLen ≥ 488 ∧
      ¬ e.cLen > 79 ∧ ¬ ptr + (25 + e.nLen + e.cLen) > 488 ∧
      ptr + 24 + e.nLen + 1 + e.cLen = ptr + (25 + e.nLen + e.cLen) := by omega
  obtain ⟨d1, d2, d3, d4⟩ : 0 + 8 ≤ 9 + e.nLen + e.cLen ∧ 8 + (e.nLen + (e.cLen + 1)) ≤ 9 + e.nLen + e.cLen ∧
      ptr + 24 + e.nLen + 1 = ptr + 24 + (e.nLen + 1) ∧ e.nLen + 1 + e.cLen ≤ e.nLen + (e.cLen + 1) := by omega
  have toNat_ofNat : ∀ {n : Nat}, n < 256 → (UInt8.ofNat n).toNat = n := UInt8.toNat_ofNat_of_lt'
  -- the tail, its appends nested to the right (so that its front can be read off by `rfl`): 8 bytes of fixed layout,
  -- then the name, the comment length, the comment
  rw [tailBytes, List.take_of_length_le (Nat.le_of_eq h.nameLen), List.take_of_length_le (Nat.le_of_eq h.commLen)] at hT
  simp only [List.append_assoc] at hT
  have hF : slice r (ptr + 16) 8 =
      be16 e.days ++ (be16 e.mins ++ (be16 e.ticks ++ [UInt8.ofNat e.type, UInt8.ofNat e.nLen])) :=
    slice_of_slice hT 0 8 rfl d1
  have hV : slice r (ptr + 24) (e.nLen + (e.cLen + 1)) = e.name ++ UInt8.ofNat e.cLen :: e.comm := by
    rw [slice_of_slice hT 8 _ rfl d2]
    show List.take _ (e.name ++ ([UInt8.ofNat e.cLen] ++ e.comm)) = _
    exact List.take_of_length_le (Nat.le_of_eq (by rw [List.length_append, h.nameLen, ← h.commLen]; rfl))
  have ghdr : getBE32 r ptr = e.header := getBE32_of_slice (slice_of_slice hH 0 4 rfl (by decide)) h.hdr
  have gsize : getBE32 r (ptr + 4) = e.size := getBE32_of_slice (slice_of_slice hH 4 4 rfl (by decide)) h.size
  have gprot : getBE32 r (ptr + 8) = e.protect := getBE32_of_slice (slice_of_slice hH 8 4 rfl (by decide)) h.prot
  have gdays : getBE16 r (ptr + 16) = e.days := getBE16_of_slice (slice_of_slice hF 0 2 rfl (by decide)) h.days
  have gmins : getBE16 r (ptr + 18) = e.mins := getBE16_of_slice (slice_of_slice hF 2 2 rfl (by decide)) h.mins
  have gticks : getBE16 r (ptr + 20) = e.ticks := getBE16_of_slice (slice_of_slice hF 4 2 rfl (by decide)) h.ticks
  have gtype : (r.getD (ptr + 22) 0).toNat = e.type :=
    (congrArg UInt8.toNat (getD_of_slice hF 6 rfl (by decide))).trans (toNat_ofNat h.type)
  have gnl : (r.getD (ptr + 23) 0).toNat = e.nLen :=
    (congrArg UInt8.toNat (getD_of_slice hF 7 rfl (by decide))).trans (toNat_ofNat (Nat.lt_of_le_of_lt hn30 (by decide)))
  have gcl : (r.getD (ptr + 24 + e.nLen) 0).toNat = e.cLen := by
    rw [getD_of_slice hV e.nLen rfl (Nat.lt_add_of_pos_right (Nat.succ_pos _)), List.getD_eq_getElem?_getD,
      List.getElem?_append_right (Nat.le_of_eq h.nameLen), h.nameLen, Nat.sub_self]
    exact toNat_ofNat (Nat.lt_of_le_of_lt hc79 (by decide))
  have sname : slice r (ptr + 24) e.nLen = e.name := by
    rw [slice_of_slice hV 0 e.nLen rfl (Nat.zero_add _ ▸ Nat.le_add_right _ _)]; exact List.take_left' h.nameLen
  have scomm : slice r (ptr + 24 + e.nLen + 1) e.cLen = e.comm := by
    rw [slice_of_slice hV (e.nLen + 1) e.cLen d3 d4]
    unfold slice
    rw [List.append_cons, List.drop_left' (by rw [List.length_append, h.nameLen]; rfl), ← h.commLen, List.take_length]
  have hpar : (ptr + (25 + e.nLen + e.cLen)) % 2 = (25 + e.nLen + e.cLen) % 2 := by
    rw [Nat.add_mod, hpe, Nat.zero_add, Nat.mod_mod]
  unfold getCacheEntry REC_AREA cacheEntryLen
  simp only [gnl, gcl, gtype, ghdr, gsize, gprot, gdays, gmins, gticks, sname, scomm, hnext, hpar, ite_not]
  rw [if_neg c1, if_neg c2, if_neg c3, if_neg c4, if_neg c5]
  split <;> rfl

/-- (round trip) the parser reads back exactly the record the writer stored, and steps over exactly its length -/
theorem C07_roundtrip (ra : Bytes) (ptr : Nat) (e : CacheEntry) (hra : ra.length = 488) (h : RecOK e)
    (hfit : ptr + cacheEntryLen e ≤ 488) (hpe : ptr % 2 = 0) :
    getCacheEntry (putCacheEntry ra ptr e) ptr = some (e, ptr + cacheEntryLen e) := by
  have hlen := (C07_len_even e).2.1
  have hY := tailBytes_length e h
  obtain ⟨b1, b2, b3, b4, b5⟩ : ptr + 12 ≤ 488 ∧ ptr + 16 + (9 + e.nLen + e.cLen) ≤ 488 ∧ ptr + 25 + e.nLen + e.cLen ≤ 488 ∧
      ptr + 12 ≤ ptr + (25 + e.nLen + e.cLen) ∧ ptr + 16 + (9 + e.nLen + e.cLen) ≤ ptr + (25 + e.nLen + e.cLen) := by omega
  have hr1 : (putAt ra ptr (headBytes e)).length = 488 := (putAt_length (hra ▸ b1)).trans hra
  have hr2 : (putAt (putAt ra ptr (headBytes e)) (ptr + 16) (tailBytes e)).length = 488 :=
    (putAt_length (by rw [hr1, hY]; exact b2)).trans hr1
  -- the optional pad byte lies behind everything the parser reads
  have pad : ∀ a len, a + len ≤ ptr + (25 + e.nLen + e.cLen) → slice (putCacheEntry ra ptr e) a len =
      slice (putAt (putAt ra ptr (headBytes e)) (ptr + 16) (tailBytes e)) a len := by
    intro a len hal
    unfold putCacheEntry
    dsimp only
    split
    · rfl
    · rename_i hodd
      unfold cacheEntryLen at hfit
      rw [if_neg hodd] at hfit
      exact slice_putAt_out (Nat.le_trans hfit (Nat.le_of_eq hr2.symm)) hal
  refine getCacheEntry_of_layout _ ptr e h b3 hpe ?_ ?_
  · rw [pad _ _ b4, slice_putAt_out (by rw [hr1, hY]; exact b2) (Nat.add_le_add_left (by decide) ptr)]
    exact slice_putAt_self (hra ▸ Nat.le_of_add_right_le b1)
  · rw [pad _ _ b5, ← hY]
    exact slice_putAt_self (hr1 ▸ Nat.le_of_add_right_le b2)

/-- records start at even offsets: offset 0, and every step is even — the hypothesis of the round trip is an
    invariant of a block filled by the writer -/
theorem C07_offsets_stay_even (ptr : Nat) (e : CacheEntry) (h : ptr % 2 = 0) : (ptr + cacheEntryLen e) % 2 = 0 := by
  rw [Nat.add_mod, h, (C07_len_even e).1]

/-- witness: a concrete record written at offset 0 of an empty record area and parsed back -/
example : let e : CacheEntry := { header := 882, size := 5, protect := 0, days := 8000, mins := 61, ticks := 150,
                                  type := 253, nLen := 3, name := [97, 98, 99], cLen := 2, comm := [120, 121] }
          getCacheEntry (putCacheEntry (List.replicate 488 0) 0 e) 0 = some (e, 30) := by
  decide

end Adf.C07
