/-
  C18 — Bystander integrity at every interruption point.
  Second sentence of the property ("within a bitmap update the on-disk bitmap-valid flag is cleared before the first
  bitmap page is rewritten and set again only after the last"): proved here for the model of `adfUpdateBitmap`, for
  every volume state, every bitmap table (any number of pages, any dirty set, any page pointers), every clock and
  every fault schedule — hence for every prefix of its write sequence, i.e. every interruption point.
  First sentence (each write lands on a free block, the object's own blocks, its directories' metadata or a sibling's
  chain link): proved here for `adfRemoveEntry` (volumes without directory cache) in its sharpest form — the only
  block written besides the bitmap is the directory or the chain predecessor, with exactly one word replaced — for
  every disk content and fault schedule; for `adfSetEntryAccess` / `adfSetEntryComment` (at most one block); and for
  creation — `adfCreateEntry`, `adfCreateFile`, `adfCreateDir` (volumes without directory cache): one link write (the
  directory block where its self pointer says, or the chain's last entry — a block of the disk — with only its link word
  replaced), then one write to a block the bitmap had free when the call began, then a bitmap update; nothing else;
  for `adfRenameEntry` (rename and move: chain predecessor, source directory, the entry, destination chain tail,
  destination directory — in this order, each at most once); for `adfFileFlush` and `adfFileCreateNextBlock` (the
  handle's own extension block, data buffer and header, then the bitmap).
  For the other operations it is decided on the real code by classifying every
  device write of every operation against the independent decoder's ownership map (tools/props/C18.py), the model being
  tied to those writes trace-exactly.  (MANIFEST: partial.)
-/
import AdfProofs.BitmapOrder
import AdfProofs.WriteSetLemmas
import AdfProofs.RemoveUnlink
import AdfProofs.Create
import AdfProofs.FileWriteLemmas
import AdfProofs.Undelete
import AdfProps.C01
namespace Adf.C18

/-- **write order of a bitmap update.**  `W` are the device writes the call appends, newest first.  Either it wrote
    nothing, or its OLDEST write is the root block with `bmFlag = BM_INVALID`; if that write failed nothing follows;
    otherwise there follow page writes, of which only the newest may have failed, and then at most one more write:
    the root block with `bmFlag = BM_VALID`, which is only issued when every page write succeeded. -/
theorem C18_bitmap_update_order (c : Cfg) (v : Nat) (s : St) :
    Post AnyFault c (updateBitmap v) s (fun _ s' => ∃ W, writesOf s'.trace = W ++ writesOf s.trace ∧ BmOrder c v W) :=
  updateBitmap_order c v s

/-- the update never stops on a model fault: the statement above is about every run -/
theorem C18_bitmap_update_total (c : Cfg) (v : Nat) (s : St) :
    Post (fun _ => False) c (updateBitmap v) s (fun _ s' => ∃ W, writesOf s'.trace = W ++ writesOf s.trace ∧ BmOrder c v W) :=
  updateBitmap_order c v s

/-- the flag values are in the BYTES that reach the device (offset 4·78 of the sector image), not only in the struct -/
theorem C18_flag_in_written_bytes {c : Cfg} {v flag : Nat} {e : Ev} (h : IsRootWr c v flag e) :
    ∃ sec data st, e = Ev.wr (some v) sec 512 data st ∧ sec = vsect c v (c.vol v).rootBlock ∧ flagOfSector data = flag :=
  let ⟨r, st, he, hwf, hf⟩ := h
  ⟨_, _, st, he, rfl, (rootImage_flag r hwf).trans hf⟩

/-- consequences spelled out (W newest first): the oldest write clears the flag, and if it failed it is the only one;
    every write strictly between the oldest and the newest is a successful page write; the newest write (when there
    are at least two) is either a page write, or the root write setting the flag — and then every earlier write
    succeeded -/
theorem C18_pages_between (c : Cfg) (v : Nat) (W : List Ev) (h : BmOrder c v W) (hne : W ≠ []) :
    (∃ e0, W.getLast? = some e0 ∧ IsRootWr c v BM_INVALID e0 ∧ (e0.status ≠ 0 → W = [e0])) ∧
    (∀ e ∈ (W.drop 1).dropLast, IsPageWr v e ∧ e.status = 0) ∧
    (∀ e1, W.head? = some e1 → W.length ≥ 2 → IsPageWr v e1 ∨ (IsRootWr c v BM_VALID e1 ∧ ∀ e ∈ W.drop 1, e.status = 0)) := by
  rcases h with h | ⟨e0, rest, rfl, h0, hfail, pages, tail, rfl, hp, htl, hcase⟩
  · exact absurd h hne
  refine ⟨⟨e0, List.getLast?_concat, h0, fun hs => by rw [hfail hs]; rfl⟩, ?_⟩
  rcases hcase with rfl | ⟨e1, rfl, hv, hall⟩
  · -- no closing write was issued: the newest write is a page, or there is only the first root write
    cases pages with
    | nil => exact ⟨List.forall_mem_nil _, fun _ _ hlen => absurd hlen (Nat.not_succ_le_self 1)⟩
    | cons a t =>
      refine ⟨fun e he => ?_, fun e1 he1 _ => .inl (hp _ (Option.some.inj he1 ▸ List.mem_cons_self))⟩
      have he : e ∈ t := (List.dropLast_concat (l₁ := t)) ▸ he
      exact ⟨hp e (List.mem_cons_of_mem _ he), htl e he⟩
  · refine ⟨fun e he => ?_, fun e he _ => .inr ⟨Option.some.inj he ▸ hv, fun e he => ?_⟩⟩
    · have he : e ∈ pages := (List.dropLast_concat (l₁ := pages)) ▸ he
      exact ⟨hp e he, hall e he⟩
    · rcases List.mem_append.mp he with he | he
      · exact hall e he
      · cases List.mem_singleton.mp he
        exact Classical.not_not.mp fun hs => nomatch hfail hs

/-- non-vacuity: a sequence of the full shape (clear, one page, set) satisfies `BmOrder` -/
example (c : Cfg) (v : Nat) (r : Blk) (hr : BlkWF r) (pg : Blk) :
    BmOrder c v
      [Ev.wr (some v) (vsect c v (c.vol v).rootBlock) 512 (rootImage (r.setW F_bmFlag BM_VALID)) 0,
       Ev.wr (some v) 881 512 (bytesOfBlk (withSum pg 0)) 0,
       Ev.wr (some v) (vsect c v (c.vol v).rootBlock) 512 (rootImage (r.setW F_bmFlag BM_INVALID)) 0] := by
  have hflag : ∀ x, x < 4294967296 → (r.setW F_bmFlag x).w F_bmFlag = x :=
    fun x hx => Blk.w_setW_same (by rw [hr.1]; decide) hx
  exact .inr ⟨_, [_, _], rfl, ⟨_, 0, rfl, setW_wf hr, hflag _ (by decide)⟩, fun h => absurd rfl h, [_], [_], rfl,
    List.forall_mem_singleton.mpr ⟨_, _, _, rfl⟩, List.forall_mem_nil _,
    .inr ⟨_, rfl, ⟨_, 0, rfl, setW_wf hr, hflag _ (by decide)⟩, List.forall_mem_singleton.mpr rfl⟩⟩

/-- **first sentence of C18 for delete** (volumes without directory cache): for EVERY disk content, state and fault
    schedule, the device writes of `adfRemoveEntry` are: none; or exactly one block — the directory or the entry's chain
    predecessor — rewritten as it is on the disk with ONE word replaced (its hash slot / its chain link) and the checksum
    recomputed, followed, if that write succeeded, by a bitmap update in its fixed order.  No header, extension or data
    block of any other file is written at any interruption point. -/
theorem C18_remove_write_set (c : Cfg) (v pSect : Nat) (name : Bytes) (s : St)
    (hnc : isDIRCACHE (c.vol v).dosType = false) :
    Post AnyFault c (removeEntry v pSect name) s (fun _ s' =>
      ∃ W, writesOf s'.trace = W ++ writesOf s.trace ∧ RemoveWrites c s.disk v W) := by
  unfold removeEntry
  apply Post.bind; apply Post.getVolCfg
  apply Post.bind
  refine (removeEntryUnlink_run c v pSect name s).mono ?_
  rintro ⟨rc, cont⟩ s3 h
  obtain ⟨W, hW, hU⟩ := h.writeSet
  cases cont with
  | none => exact Post.pure ⟨W, hW, hU.imp id fun ⟨link, hWl, hl⟩ => ⟨link, [], hWl, hl, fun _ => rfl, .inl rfl⟩⟩
  | some pen =>
    obtain ⟨parent, entry, nSect⟩ := pen
    obtain ⟨link, rfl, hlink, hst⟩ := hU
    -- after the link write only the free map is touched; then the bitmap is written out
    have free1 : ∀ s4, NoWrite s3 s4 → Post AnyFault c (do setBlockFree v nSect; updateBitmap v) s4
        (fun _ s' => ∃ W, Wrote s s' W ∧ RemoveWrites c s.disk v W) := by
      intro s4 q4
      apply Post.bind
      refine (Post.noWrite (setBlockFree_noWrite v nSect)).mono fun _ s5 q5 => ?_
      refine (updateBitmap_order c v s5).mono ?_
      rintro _ s6 ⟨bm, hbm, hord⟩
      exact ⟨bm ++ [link], (hW.noWrite (q4.trans q5)).trans hbm, .inr ⟨link, bm, rfl, hlink, fun h => absurd hst h, hord⟩⟩
    simp only [hnc, Bool.false_eq_true, if_false]
    refine Post.ite (fun _ => ?_) (fun _ => ?_)
    · apply Post.bind
      refine (Post.noWrite (freeFileBlocks_noWrite v entry)).mono ?_
      intro rc3 s4 q4
      refine Post.ite (fun _ => ?_) (fun _ => ?_)
      · exact Post.pure ⟨[link], hW.noWrite q4, .inr ⟨link, [], rfl, hlink, fun _ => rfl, .inl rfl⟩⟩
      · exact free1 s4 q4
    · exact free1 s3 (.refl s3)

/-- the block-freeing walks of a delete (file header table, extension chain) only read and update library memory -/
theorem C18_free_blocks_writes_nothing (c : Cfg) (v : Nat) (entry : Blk) (s : St) :
    Post AnyFault c (freeFileBlocks v entry) s (fun _ s' => s'.disk = s.disk ∧ writesOf s'.trace = writesOf s.trace) :=
  (Post.noWrite (freeFileBlocks_noWrite v entry)).mono fun _ _ h => ⟨h.disk, h.writes⟩

/-- `adfSetEntryAccess` and `adfSetEntryComment` (volumes without directory cache) write at most ONE block, for every
    disk content and fault schedule: no bitmap, no directory, no other entry -/
theorem C18_access_write_set (c : Cfg) (v parSect : Nat) (name : Bytes) (acc : Nat) (s : St)
    (hnc : isDIRCACHE (c.vol v).dosType = false) :
    Post AnyFault c (setEntryAccess v parSect name acc) s (fun _ s' =>
      ∃ W, writesOf s'.trace = W ++ writesOf s.trace ∧ OneWriteTo c v W) :=
  (setEntryAccess_write_set c v parSect name acc s hnc).mono fun _ _ ⟨W, hW, h⟩ => ⟨W, hW, h.oneWriteTo⟩

theorem C18_comment_write_set (c : Cfg) (v parSect : Nat) (name cmt : Bytes) (s : St)
    (hnc : isDIRCACHE (c.vol v).dosType = false) :
    Post AnyFault c (setEntryComment v parSect name cmt) s (fun _ s' =>
      ∃ W, writesOf s'.trace = W ++ writesOf s.trace ∧ OneWriteTo c v W) :=
  (setEntryComment_write_set c v parSect name cmt s hnc).mono fun _ _ ⟨W, hW, h⟩ => ⟨W, hW, h.oneWriteTo⟩

/-- **write set of `adfCreateEntry`** (every directory block, name, chain content, volume state, fault schedule): nothing,
    or exactly one block — the directory itself or the chain's last entry with only its link word replaced; the entry
    exists iff that write succeeded; the block handed out was free -/
theorem C18_create_entry_write_set (c : Cfg) (v : Nat) (dir : Blk) (name : Bytes) (s : St) :
    Post AnyFault c (createEntry v dir name) s (fun r s' => ∃ W, writesOf s'.trace = W ++ writesOf s.trace ∧
      CreateEntryW c s.disk v dir (s.mem.vol v).bitmapTable r.1 W ∧ s'.clock = s.clock) :=
  (createEntry_run c v dir name s).mono fun _ _ h => h.writeSet

/-- **write set of `adfCreateFile`** (volumes without directory cache): the link write, then the new header on a block that
    was free, then a bitmap update in its fixed order — at every interruption point no block of another file is touched -/
theorem C18_create_file_write_set (c : Cfg) (v nParent : Nat) (name : Bytes) (s : St)
    (hnc : isDIRCACHE (c.vol v).dosType = false) :
    Post AnyFault c (createFile v nParent name) s (fun _ s' => ∃ W, writesOf s'.trace = W ++ writesOf s.trace ∧
      CreateWrites c s.disk v (blkOfBytes ((s.sector (vsect c v nParent)).take 512)) (s.mem.vol v).bitmapTable W) :=
  (createFile_run c v nParent name s).mono fun _ _ h => h.writeSet hnc (.inl rfl)

/-- **write set of `adfCreateDir`** (volumes without directory cache): the same shape -/
theorem C18_create_dir_write_set (c : Cfg) (v nParent : Nat) (name : Bytes) (s : St)
    (hnc : isDIRCACHE (c.vol v).dosType = false) :
    Post AnyFault c (createDir v nParent name) s (fun _ s' => ∃ W, writesOf s'.trace = W ++ writesOf s.trace ∧
      CreateWrites c s.disk v (blkOfBytes ((s.sector (vsect c v nParent)).take 512)) (s.mem.vol v).bitmapTable W) :=
  (createDir_run c v nParent name s).mono fun _ _ h => h.writeSet hnc (.inl rfl)

/-- **the access log is append-only, for every program of the model**: whatever a call does and wherever it is interrupted,
    the log after it is the log before it with new events in front — what the write-set theorems say about "the writes of
    this call" can therefore never be undone by a later step of the same call -/
theorem C18_access_log_only_grows (c : Cfg) {α : Type} (p : Prog α) (s : St) :
    ∃ T, (run c p s).2.trace = T ++ s.trace :=
  let ⟨T, h, _⟩ := run_logged c p s; ⟨T, h⟩

/-- **write set of `adfUndelDir`** (volumes without directory cache; every disk content, entry block, volume state and fault
    schedule), newest first: the entry's own block at most once, at the sector its self pointer names; then at most one
    link write — the parent directory where its self pointer says, or the tail of the hash chain as the disk then holds it
    with only its link word replaced by the entry's block number; then, only after a successful link write, a bitmap
    update in its fixed order.  No block of any other file or directory is written, wherever the call is interrupted. -/
theorem C18_undelete_dir_write_set (c : Cfg) (v pSect : Nat) (entry : Blk) (s : St)
    (hnc : isDIRCACHE (c.vol v).dosType = false) :
    Post AnyFault c (undelDir v pSect entry) s (fun _ s' => ∃ W, writesOf s'.trace = W ++ writesOf s.trace ∧
      UndelW c s.disk v (blkOfBytes ((s.sector (vsect c v pSect)).take 512)) (entry.w F_headerKey) W) :=
  (undelDir_spec c v pSect entry s).mono fun _ _ h => h.wrote hnc

/-- **write set of `adfUndelFile`** (from the point where it has the file's block lists): the same shape — marking the
    file's blocks used writes nothing to the device -/
theorem C18_undelete_file_write_set (c : Cfg) (v pSect : Nat) (entry : Blk) (data exts : List Nat) (s : St)
    (hnc : isDIRCACHE (c.vol v).dosType = false) :
    Post AnyFault c (undelFileRest v pSect entry data exts) s (fun _ s' => ∃ W, writesOf s'.trace = W ++ writesOf s.trace ∧
      UndelW c s.disk v (blkOfBytes ((s.sector (vsect c v pSect)).take 512)) (entry.w F_headerKey) W) :=
  (undelFileRest_spec c v pSect entry data exts s).mono fun _ _ h => h.wrote hnc

/-- the link step of undelete on its own: nothing, or exactly one block, `some` iff that write succeeded -/
theorem C18_create_entry_at_write_set (c : Cfg) (v : Nat) (dir : Blk) (name : Bytes) (t : Nat) (s : St) :
    Post AnyFault c (createEntryAt v dir name t) s (fun r s' => ∃ W, writesOf s'.trace = W ++ writesOf s.trace ∧
      CreateAtW c s.disk v dir t r.1 W) :=
  (createEntryAt_run c v dir name t s).mono fun _ _ h => h.writeSet

/-- **write set of `adfFileFlush`** (volumes without directory cache; every handle state, disk content, fault schedule): at
    most the handle's current extension block (where it says it lives), its data buffer (to the block the handle
    designates), its header (to its own sector), then a bitmap update — nothing else, so closing or flushing a file cannot
    touch a block of another file -/
theorem C18_flush_write_set (c : Cfg) (h : FileH) (s : St) (hwf : BlkWF h.hdr)
    (hnc : isDIRCACHE (c.vol h.vol).dosType = false) :
    Post AnyFault c (fileFlush h) s (fun _ s' => ∃ W, writesOf s'.trace = W ++ writesOf s.trace ∧ FlushWrites c h W) :=
  C01.C01_flush_writes_buffer c h s hwf hnc

/-- **write set of `adfFileCreateNextBlock`** (the step of `adfFileWrite` that moves to a new data block; every handle
    state, disk content, volume state, fault schedule, all flavours): at most one extension block rewritten where it says it
    lives and at most one write of the finished data buffer to the block the handle designated — no header, no bitmap, no
    block of another file; on FFS volumes the data written is the handle's buffer as it is -/
theorem C18_next_block_write_set (c : Cfg) (h : FileH) (s : St) :
    Post AnyFault c (fileCreateNextBlock h) s (fun _ s' => ∃ Wdat Wext, writesOf s'.trace = Wdat ++ Wext ++ writesOf s.trace ∧
      ExtWr c h.vol Wext ∧ DataWr c h Wdat) :=
  (fileCreateNextBlock_run c h s).mono fun _ _ r => by
    cases r with
    | refused _ reads => exact ⟨[], [], reads.wrote, .inl rfl, .inl rfl⟩
    | took alloc wrote dat => exact let ⟨_, hW, ext⟩ := alloc.wrote; ⟨_, _, hW.trans wrote, ext, dat⟩

/-- **write set of `adfRenameEntry`** (rename and move, volumes without directory cache; every disk content, volume state
    and fault schedule): nothing, or — with `nSect` the block the library's own lookup finds for the old name and `prevSect`
    its chain predecessor — in this order, each at most once: the predecessor (only its link word replaced), the source
    directory block, the entry's own block, the last entry of the destination chain (written where it says it lives, only
    its link replaced), the destination directory block.  No other block is written, wherever the call is interrupted. -/
theorem C18_rename_write_set (c : Cfg) (v pSect nPSect : Nat) (oldName newName : Bytes) (s : St)
    (hnc : isDIRCACHE (c.vol v).dosType = false) :
    Post AnyFault c (renameEntry v pSect oldName nPSect newName) s (fun _ s' =>
      ∃ W, writesOf s'.trace = W ++ writesOf s.trace ∧ RenameWrites c v pSect nPSect oldName s W) := by
  let Q : St → Prop := fun s' => ∃ W, Wrote s s' W ∧ RenameWrites c v pSect nPSect oldName s W
  show Post AnyFault c _ s fun _ => Q
  have nothing : ∀ s', NoWrite s s' → Q s' := fun _ hq => ⟨[], hq.wrote, .inl rfl⟩
  unfold renameEntry
  refine Post.ite (fun _ => Post.pure (nothing _ (.refl s))) (fun _ => ?_)
  apply Post.bind; apply Post.getVolCfg
  refine lookup_found (fun _ _ r => nothing _ r.toNoWrite) (fun _ r => nothing _ r.toNoWrite)
    fun rc parent entry prevSect nSect s2 look => ?_
  -- the pre-checks only read
  apply Post.bind
  refine (Post.reads (hasFreeBlocks_reads v 1)).mono ?_
  intro fb s3 r3
  refine Post.ite (fun h => absurd h.1 (Bool.eq_false_iff.mp hnc)) (fun _ => ?_)
  apply Post.bind
  refine (Post.reads (readEntryBlock_reads v nPSect)).mono ?_
  rintro ⟨rc4, chk⟩ s4 r4
  have q4 := ((look.reads.trans r3).trans r4).toNoWrite
  refine Post.ite (fun _ => Post.pure (nothing _ q4)) (fun _ => ?_)
  apply Post.bind
  refine (Post.reads (renameDupWalk_reads ..)).mono ?_
  intro rc5 s5 r5
  have q5 := q4.trans r5.toNoWrite
  refine Post.ite (fun _ => Post.pure (nothing _ q5)) (fun _ => ?_)
  -- from here on the five writes: what has been written since `s` is carried along, an exit fills up with `[]`
  have stop : ∀ {s' W5 W4 W3 W2 W1}, One (IsPrevLinkWr c v prevSect) W1 → One (ToSect c v pSect) W2 →
      One (ToSect c v nSect) W3 → One (IsTailLinkWr c v nSect) W4 → One (ToSect c v nPSect) W5 →
      Wrote s s' (W5 ++ (W4 ++ (W3 ++ (W2 ++ W1)))) → Q s' :=
    fun {_ W5 W4 W3 W2 W1} h1 h2 h3 h4 h5 hW => ⟨_, hW, .inr ⟨nSect, prevSect, W5, W4, W3, W2, W1,
      look.foundAt, by simp only [List.append_assoc], h1, h2, h3, h4, h5⟩⟩
  -- the join points of the `do` block: `unlink ()` takes the entry out of its old chain, `fromDir par` is everything
  -- from the write of the source directory on; the five unnamed `let`s in front of them are the pure ones of the rest
  -- of the function (`tmpSect`, the three stages of the renamed entry block, `hvN`)
  extract_lets _ _ _ _ _ fromDir unlink
  suffices hFromDir : ∀ par s' W1, Wrote s s' W1 → One (IsPrevLinkWr c v prevSect) W1 →
      Post AnyFault c (fromDir par) s' fun _ => Q by
    suffices hUnlink : ∀ s', NoWrite s s' → Post AnyFault c (unlink ()) s' fun _ => Q by
      refine Post.ite (fun _ => ?_) (fun _ => hUnlink s5 q5)
      apply Post.bind
      refine (Post.reads (renameUpWalk_reads ..)).mono ?_
      intro rcu s6 r6
      exact Post.ite (fun _ => Post.pure (nothing _ (q5.trans r6.toNoWrite))) (fun _ => hUnlink s6 (q5.trans r6.toNoWrite))
    -- 1. the head of a chain needs no write of its own (the directory block follows); else the predecessor's link
    intro s' q
    refine Post.ite (fun _ => ?_) (fun _ => ?_)
    · apply Post.bind; apply Post.pure
      exact hFromDir _ s' [] q.wrote (.inl rfl)
    apply Post.bind
    refine (Post.reads (readEntryBlock_reads v prevSect)).mono ?_
    rintro ⟨rcp, previous⟩ sa ra
    have qa := q.trans ra.toNoWrite
    refine Post.ite (fun _ => Post.pure (nothing _ qa)) (fun _ => ?_)
    apply Post.bind; apply Post.write
    intro rcw sb w
    obtain ⟨W1, hW1, h1⟩ := w.one (P := IsPrevLinkWr c v prevSect) fun st => ⟨previous, _, st, rfl⟩
    have hW1 := qa.then_wrote hW1
    refine Post.ite (fun _ => Post.pure (stop h1 (.inl rfl) (.inl rfl) (.inl rfl) (.inl rfl) hW1)) (fun _ => ?_)
    apply Post.bind; apply Post.pure
    exact hFromDir _ sb W1 hW1 h1
  -- 2. the source directory, then the entry under its new name
  intro par s' W1 hW1 h1
  apply Post.bind; apply Post.now
  apply Post.bind; apply Post.writeParent
  rintro ⟨rcp, par'⟩ sa W2 hW2 h2
  have hWa := hW1.trans hW2
  refine Post.ite (fun _ => Post.pure (stop h1 h2 (.inl rfl) (.inl rfl) (.inl rfl) hWa)) (fun _ => ?_)
  apply Post.bind; apply Post.write
  intro rcw sb w
  obtain ⟨W3, hW3, h3⟩ := w.toSect
  have hWb := hWa.trans hW3
  refine Post.ite (fun _ => Post.pure (stop h1 h2 h3 (.inl rfl) (.inl rfl) hWb)) (fun _ => ?_)
  apply Post.bind
  refine (Post.reads (readEntryBlock_reads v nPSect)).mono ?_
  rintro ⟨rcn, np⟩ sc rn
  have hWc := hWb.noWrite rn.toNoWrite
  refine Post.ite (fun _ => Post.pure (stop h1 h2 h3 (.inl rfl) (.inl rfl) hWc)) (fun _ => ?_)
  -- `afterLink rc` is what follows the link into the new chain, `toDir npar` the write of the destination directory
  -- (the `let` in front of them is `nSect2`)
  extract_lets _ toDir afterLink
  suffices hToDir : ∀ npar sd W4, Wrote s sd (W4 ++ (W3 ++ (W2 ++ W1))) → One (IsTailLinkWr c v nSect) W4 →
      Post AnyFault c (toDir npar) sd fun _ => Q by
    -- 3. an empty slot needs no write of its own (the directory block follows); else the link of the chain's last entry
    refine Post.ite (fun _ => ?_) (fun _ => ?_)
    · apply Post.bind; apply Post.pure
      exact hToDir _ sc [] hWc (.inl rfl)
    apply Post.bind
    refine (Post.reads (renameTailWalk_reads ..)).mono ?_
    rintro ⟨rct, prev⟩ sd rt
    have hWd := hWc.noWrite rt.toNoWrite
    refine Post.ite (fun _ => Post.pure (stop h1 h2 h3 (.inl rfl) (.inl rfl) hWd)) (fun _ => ?_)
    refine writeEntryByType fun fix rcw rc' se hfix _ w => ?_
    obtain ⟨W4, hW4, h4⟩ := w.one (P := IsTailLinkWr c v nSect) fun st => ⟨prev, fix, st, hfix, rfl⟩
    refine Post.ite (fun _ => Post.pure (stop h1 h2 h3 h4 (.inl rfl) (hWd.trans hW4))) (fun _ => ?_)
    apply Post.bind; apply Post.pure
    exact hToDir _ se W4 (hWd.trans hW4) h4
  -- 4. the destination directory
  intro npar sd W4 hWd h4
  apply Post.bind; apply Post.now
  apply Post.bind; apply Post.writeParent
  intro r se W5 hW5 h5
  have fin := stop h1 h2 h3 h4 h5 (hWd.trans hW5)
  refine Post.ite (fun _ => Post.pure fin) (fun _ => ?_)
  exact Post.ite (fun h => absurd h (Bool.eq_false_iff.mp hnc)) fun _ => Post.pure fin

end Adf.C18
