/-
  C13 — Volume containment: a volume never touches blocks outside its own range.

  Every volume-level access of the model goes through the primitives `volRead` / `volWrite`
  (adfReadBlock / adfWriteBlock), which translate the logical block number modulo 2^32 (the C
  code computes in `unsigned`) and range-check the result.  The theorem is about EVERY program:
  every event tagged with volume v has its physical sector inside [firstBlock v, lastBlock v] —
  whatever block numbers the program took from on-disk structures.
  Raw device accesses (tag `none`) are made only by the open/mount code (RDSK/PART/FSHD/LSEG
  lists, hardfile root search) and by adfCreateHdHeader; they are outside every volume by design
  and are compared with the C run by the correspondence check.
-/
import AdfProofs.ProgLemmas
namespace Adf.C13

def InRange (c : Cfg) : Ev → Prop
  | .rd (some v) n _ _ => (c.vol v).firstBlock ≤ n ∧ n ≤ (c.vol v).lastBlock
  | .wr (some v) n _ _ _ => (c.vol v).firstBlock ≤ n ∧ n ≤ (c.vol v).lastBlock
  | _ => True

private theorem legal_inRange {c : Cfg} {e : Ev} (h : e.Legal c) : InRange c e := by
  cases e with
  | rd vol n size st => cases vol with
    | some v => exact h.2
    | none => trivial
  | wr vol n size d st => cases vol with
    | some v => exact h.2.2
    | none => trivial

/-- every access made on behalf of a volume falls inside that volume's block range, for every
    program, every disk content and every logical block number (including the 2^32 wrap-around) -/
theorem C13_contained (c : Cfg) {α : Type} (p : Prog α) (s : St) :
    ∃ evs, (run c p s).2.trace = evs ++ s.trace ∧ ∀ e ∈ evs, InRange c e :=
  let ⟨evs, ht, hl, _⟩ := run_logged c p s; ⟨evs, ht, fun e he => legal_inRange (hl e he)⟩

theorem prim_inRange (c : Cfg) {β : Type} (pr : Prim β) (s : St) :
    ∃ evs, (runPrim c pr s).2.trace = evs ++ s.trace ∧ ∀ e ∈ evs, InRange c e :=
  C13_contained c (.prim pr) s

/-- the ranges adfCreateVol derives from cylinder numbers: partitions with disjoint cylinder
    ranges get disjoint block ranges, none of which contains the RDB area (cylinders 0 and 1) -/
def volFirst (heads secs startCyl : Nat) : Nat := heads * secs * startCyl
def volLast (heads secs startCyl lenCyl : Nat) : Nat := heads * secs * startCyl + heads * secs * lenCyl - 1

theorem C13_partitions_disjoint (heads secs s1 l1 s2 l2 : Nat) (hpos : 0 < heads * secs)
    (hl1 : 0 < l1) (hdis : s1 + l1 ≤ s2) :
    volLast heads secs s1 l1 < volFirst heads secs s2 := by
  unfold volLast volFirst
  have h1 : heads * secs * (s1 + l1) ≤ heads * secs * s2 := Nat.mul_le_mul_left _ hdis
  rw [Nat.mul_add] at h1
  have h2 : 0 < heads * secs * l1 := Nat.mul_pos hpos hl1
  omega

theorem C13_rdb_area_untouched (heads secs startCyl : Nat) (h2 : 2 ≤ startCyl) :
    heads * secs * 2 ≤ volFirst heads secs startCyl := by
  unfold volFirst
  exact Nat.mul_le_mul_left _ h2

def okWriteAt (n : Nat) : Ev → Prop
  | .wr _ m _ _ st => m = n ∧ st = 0
  | _ => False

/-- the bytes of a sector change only through a successful write event at that very sector:
    if the trace of a run holds no such event for sector `n`, sector `n` is byte-identical
    afterwards.  With `C13_contained` (volume events stay in range) and
    `C13_partitions_disjoint`, operations on one partition leave the bytes of every other
    partition and of the partition-table area unchanged. -/
theorem C13_unchanged_unless_written (c : Cfg) {α : Type} (p : Prog α) (s : St) (n : Nat)
    (hno : ∀ e ∈ (run c p s).2.trace, ¬ okWriteAt n e) :
    (run c p s).2.sector n = s.sector n := by
  obtain ⟨evs, ht, -, hd⟩ := run_logged c p s
  have hno' : ∀ e ∈ evs, ¬ okWriteAt n e := fun e he => hno e (by rw [ht]; exact List.mem_append_left _ he)
  unfold St.sector
  rw [hd]
  clear ht hd hno
  -- replaying the new events: only a successful write to sector `n` could change sector `n`
  induction evs with
  | nil => rfl
  | cons e evs ih =>
    rw [List.foldr_cons, ← ih fun e' he' => hno' e' (List.mem_cons_of_mem _ he')]
    have he := hno' e List.mem_cons_self
    cases e with
    | rd vol m size st => rfl
    | wr vol m size d st =>
      cases st with
      | succ k => rfl
      | zero =>
        have hm : ¬ m = n := fun h => he ⟨h, rfl⟩
        show (Std.HashMap.insert _ m _).getD n _ = _
        rw [Std.HashMap.getD_insert, if_neg (by simpa using hm)]

end Adf.C13
