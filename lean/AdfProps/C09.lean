/-
  C09 — Memory safety for valid histories: the explicit bounds of the model.
  Lean has no memory to corrupt.  The model makes every data-dependent index of the C code explicit (a checked
  access whose failure is the model fault `oob`); the theorems say that at the sites guarded by an invariant of
  well-formed volumes the check cannot fire.  Partial by nature: which C accesses need a check is the model's
  reading of the code; the runtime side is observed by ASan / UBSan / valgrind on the explored histories.
-/
import AdfProps.C04
import AdfProps.C07
import AdfProps.C14
namespace Adf.C09

/-- in-memory bitmap of a mounted volume of `nblocks` blocks: allocated with one page per 4064 mapped blocks -/
def BitmapSized (vm : VolMem) (nblocks : Nat) : Prop :=
  vm.hasBitmap = true ∧ vm.bitmapTable.length = nBlock2bitmapSize (nblocks - 2)

/-- the unchecked table index of adfIsBlockFree / adfSetBlockUsed / adfSetBlockFree is in range for every block
    number inside the volume: the model's `oob` check at those sites cannot fire for 2 ≤ n < nblocks -/
theorem C09_bitmap_index_in_table (vm : VolMem) (nblocks n : Nat) (h : BitmapSized vm nblocks)
    (hn : 2 ≤ n) (hlt : n < nblocks) : bmInTable vm n = true := by
  unfold bmInTable
  have := (C14.C14_block_index_in_table nblocks n hn hlt).1
  simp [h.1, hn, h.2, this]

/-- `adfBitmapAllocate` establishes that shape (for the size adfMount / adfCreateBitmap compute) -/
theorem C09_bitmapAllocate_sized (c : Cfg) (v nblocks : Nat) (s : St) :
    BitmapSized ((run c (bitmapAllocate v (nBlock2bitmapSize (nblocks - 2))) s).2.mem.vol v) nblocks := by
  show BitmapSized ((s.mem.setVol v _).vol v) nblocks
  rw [Mem.vol_setVol]
  exact ⟨rfl, List.length_replicate⟩

/-- setting / clearing bits never changes the shape of the table -/
theorem C09_bmSetWord_keeps_shape (tbl : List Blk) (n : Nat) (f : Bool) :
    (bmSetWord tbl n f).length = tbl.length := bmSetWord_length tbl n f

/-- the allocator only ever returns blocks inside the table (so marking them used is in bounds) -/
theorem C09_alloc_in_volume (tbl : List Blk) (root last nb : Nat) (hroot : 2 < root) (hr : root ≤ last) :
    ∀ b ∈ scanFree tbl root last (last + 2) root nb, 2 ≤ b ∧ b < last + 1 := fun b hb =>
  have h := ((C04.C04_alloc_contract tbl root last (last + 2) nb hroot hr (Nat.le_add_right ..)).1 b hb).2
  ⟨h.1, Nat.lt_succ_of_le h.2⟩

/-- `adfPutCacheEntry` overwrites in place: three stores (12 bytes at `ptr`, the tail at `ptr + 16`, the pad byte of an
    odd record), each ending at or before `ptr + cacheEntryLen e` -/
theorem putCacheEntry_length (ra : Bytes) (ptr : Nat) (e : CacheEntry) (h : C07.RecOK e)
    (hfit : ptr + cacheEntryLen e ≤ ra.length) : (putCacheEntry ra ptr e).length = ra.length := by
  have hl := (C07.C07_len_even e).2.1
  have h1 : (putAt ra ptr (be32 e.header ++ be32 e.size ++ be32 e.protect)).length = ra.length :=
    putAt_length (by show ptr + 12 ≤ ra.length; omega)
  have h2 : (putAt (putAt ra ptr (be32 e.header ++ be32 e.size ++ be32 e.protect)) (ptr + 16) (C07.tailBytes e)).length
      = ra.length :=
    (putAt_length (by rw [C07.tailBytes_length e h, h1]; omega)).trans h1
  show (if (25 + e.nLen + e.cLen) % 2 = 0 then _ else _ : Bytes).length = ra.length
  split
  · exact h2
  · rename_i hodd
    rw [show cacheEntryLen e = 25 + e.nLen + e.cLen + 1 from if_neg hodd, ← Nat.add_assoc] at hfit
    exact (putAt_length (Nat.le_trans hfit (Nat.le_of_eq h2.symm))).trans h2

/-- the directory-cache writer stays inside the 488-byte record area: when the caller's test
    `offset + entryLen <= 488` holds (adfAddInCache), storing the record does not grow the area -/
theorem C09_put_stays_in_area (ra : Bytes) (ptr : Nat) (e : CacheEntry) (hra : ra.length = 488) (h : C07.RecOK e)
    (hfit : ptr + cacheEntryLen e ≤ 488) : (putCacheEntry ra ptr e).length = 488 :=
  (putCacheEntry_length ra ptr e h (hra ▸ hfit)).trans hra

/-- hash slots index the 72-entry table -/
theorem C09_hash_slot_in_table (intl : Bool) (name : Bytes) : hashName intl name < 72 :=
  C15.C15_hash_lt intl name

/-- slots of the block lists: `dataBlocks[MAX_DATABLK-1-i]` for i < 72 is inside the 72-entry array -/
theorem C09_datablock_slot (i : Nat) (h : i < 72) : F_table ≤ F_table + 71 - i ∧ F_table + 71 - i < F_table + 72 := by
  unfold F_table; omega

end Adf.C09
