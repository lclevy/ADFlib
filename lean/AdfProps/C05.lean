/-
  C05 — Allocation conservation: free-space accounting kernel.
  Model: AdfModel/Bitmap.lean (`countFreeBlocks` = number of b in [2, last] with `bmIsFree`), `bmSetWord`, `scanFree`.
  The theorems: marking one block used / free changes the count by exactly one (or not at all when it was
  already in that state); an allocation of nb blocks lowers the count by exactly nb and releasing the same blocks
  restores it (create-then-delete restores the count, at the bitmap level); the count of a fresh volume.
  At the level of an operation: `adfCreateEntry` (the allocation site shared by file creation, directory creation and
  rename) takes exactly one block when it succeeds and none when it fails, for every disk content and fault schedule —
  including the path where the block is already allocated and the write that links the entry is refused
  (`C05_create_entry_takes_one_or_none`): the free MAP (not only the count) is restored.
  NOT proved (MANIFEST): that every other operation of the library releases exactly the blocks it owns; checked on
  the explored histories by the independent decoder and the exact free-count model.
-/
import AdfProofs.BitmapLemmas
import AdfProps.C04
import AdfProofs.Create
import AdfProofs.Undelete
namespace Adf.C05

def countIn (tbl : List Blk) (bs : List Nat) : Nat := (bs.filter (bmIsFree tbl)).length

/-- the library's count: blocks 2 … last -/
def freeCount (tbl : List Blk) (last : Nat) : Nat := countIn tbl (List.range' 2 (last + 1 - 2))

theorem countIn_set_notin (tbl : List Blk) (n : Nat) (f : Bool) (hwf : TableWF tbl) (hn : 2 ≤ n)
    (hpg : (n - 2) / BM_PAGE_BLOCKS < tbl.length) (bs : List Nat) (h2 : ∀ b ∈ bs, 2 ≤ b) (hnot : n ∉ bs) :
    countIn (bmSetWord tbl n f) bs = countIn tbl bs := by
  unfold countIn
  congr 1
  apply List.filter_congr
  intro b hb
  exact bmIsFree_set_other tbl n b f hwf hn (h2 b hb) (fun e => hnot (e ▸ hb)) hpg

theorem countIn_cons (tbl : List Blk) (a : Nat) (bs : List Nat) :
    countIn tbl (a :: bs) = (bmIsFree tbl a).toNat + countIn tbl bs := by
  unfold countIn
  rw [List.filter_cons]
  cases bmIsFree tbl a
  · exact (Nat.zero_add _).symm
  · exact Nat.add_comm ..

theorem countIn_set_mem (tbl : List Blk) (n : Nat) (f : Bool) (hwf : TableWF tbl) (hn : 2 ≤ n)
    (hpg : (n - 2) / BM_PAGE_BLOCKS < tbl.length) (bs : List Nat) (h2 : ∀ b ∈ bs, 2 ≤ b) (hnd : bs.Nodup) (hmem : n ∈ bs) :
    countIn (bmSetWord tbl n f) bs + (bmIsFree tbl n).toNat = countIn tbl bs + f.toNat := by
  have hp := List.perm_cons_erase hmem
  have hcount : ∀ t, countIn t bs = (bmIsFree t n).toNat + countIn t (bs.erase n) :=
    fun t => ((hp.filter _).length_eq).trans (countIn_cons t n _)
  rw [hcount, hcount, bmIsFree_set_same tbl n f hwf hpg,
    countIn_set_notin tbl n f hwf hn hpg _ (fun b hb => h2 b (List.mem_of_mem_erase hb)) hnd.not_mem_erase]
  omega

/-- marking a FREE block of the list used lowers the count by exactly one -/
theorem C05_use_one (tbl : List Blk) (n : Nat) (hwf : TableWF tbl) (hn : 2 ≤ n)
    (hpg : (n - 2) / BM_PAGE_BLOCKS < tbl.length) (bs : List Nat) (h2 : ∀ b ∈ bs, 2 ≤ b) (hnd : bs.Nodup)
    (hmem : n ∈ bs) (hfree : bmIsFree tbl n = true) :
    countIn (bmSetWord tbl n false) bs + 1 = countIn tbl bs := by
  have := countIn_set_mem tbl n false hwf hn hpg bs h2 hnd hmem
  rwa [hfree] at this

/-- marking a USED block of the list free raises the count by exactly one -/
theorem C05_free_one (tbl : List Blk) (n : Nat) (hwf : TableWF tbl) (hn : 2 ≤ n)
    (hpg : (n - 2) / BM_PAGE_BLOCKS < tbl.length) (bs : List Nat) (h2 : ∀ b ∈ bs, 2 ≤ b) (hnd : bs.Nodup)
    (hmem : n ∈ bs) (hused : bmIsFree tbl n = false) :
    countIn (bmSetWord tbl n true) bs = countIn tbl bs + 1 := by
  have := countIn_set_mem tbl n true hwf hn hpg bs h2 hnd hmem
  rwa [hused] at this

/-- releasing a block and the state "free" are idempotent: freeing twice counts once (no double credit) -/
theorem C05_free_idempotent (tbl : List Blk) (n : Nat) (hwf : TableWF tbl) (hn : 2 ≤ n)
    (hpg : (n - 2) / BM_PAGE_BLOCKS < tbl.length) (m : Nat) (hm : 2 ≤ m) :
    bmIsFree (bmSetWord (bmSetWord tbl n true) n true) m = bmIsFree (bmSetWord tbl n true) m := by
  rw [bmIsFree_bmSetWord _ n m true (bmSetWord_wf tbl n true hwf) ((bmSetWord_length ..).symm ▸ hpg),
    bmIsFree_bmSetWord tbl n m true hwf hpg]
  split <;> rfl

/-- the free count is a count over distinct blocks of the volume -/
theorem C05_range_nodup (last : Nat) : (List.range' 2 (last + 1 - 2)).Nodup ∧ ∀ b ∈ List.range' 2 (last + 1 - 2), 2 ≤ b ∧ b ≤ last := by
  refine ⟨List.nodup_range' .., ?_⟩
  intro b hb
  simp only [List.mem_range'_1] at hb
  omega

/-- witness on the 40-block table of C04: 36 free blocks; after using 22 the count is 35, after freeing it again 36 -/
example : freeCount C04.smallTbl 39 = 36 ∧ freeCount (bmSetWord C04.smallTbl 22 false) 39 = 35 ∧
          freeCount (bmSetWord (bmSetWord C04.smallTbl 22 false) 22 true) 39 = 36 := by decide

/-- **`adfCreateEntry` leaks nothing**: with `none` the free map of the volume is unchanged, with `some b` exactly block `b`
    (free before) became used — for every directory block, name, disk content and fault schedule -/
theorem C05_create_entry_takes_one_or_none (c : Cfg) (v : Nat) (dir : Blk) (name : Bytes) (s : St)
    (hwf : TableWF (s.mem.vol v).bitmapTable) :
    Post AnyFault c (createEntry v dir name) s (fun r s' => FreeMapStep v s.mem s'.mem r.1) :=
  (createEntry_run c v dir name s).mono fun _ _ h => h.freeMapStep hwf

/-- the hypothesis holds for every table the library builds (pages decoded from sectors, then bits set / cleared) -/
example (bytes : Bytes) (n : Nat) (f : Bool) : TableWF (bmSetWord [blkOfBytes bytes] n f) :=
  bmSetWord_wf _ _ _ fun _ hp => List.mem_singleton.mp hp ▸ blkOfBytes_wf bytes

/-- **a refused undelete gives every block back** (`adfUndelFile`, model `undelFileLink`; the defect repaired by the
    give-back exit cannot return without breaking this): for every disk content, block lists — also lists naming a block
    twice or naming the header block —, volume type, volume state and fault schedule, when the call ends without having
    linked the file (a block of it belongs to another file by now, the name exists again, the parent cannot be read, a
    write is refused), the free map is block for block what it was when the call began. -/
theorem C05_refused_undelete_restores_free_map (c : Cfg) (v pSect : Nat) (entry : Blk) (data exts : List Nat) (s : St)
    (hwf : TableWF (s.mem.vol v).bitmapTable) (hfree : bmIsFree (s.mem.vol v).bitmapTable (entry.w F_headerKey) = true) :
    Post AnyFault c (undelFileLink v pSect entry data exts) s (fun r s' => r.2 = none → FreeMapEq v s.mem s'.mem) :=
  (undelFileLink_spec c v pSect entry data exts s).mono fun _ _ h => h.restores hwf hfree

/-- **`adfUndelFile`, the whole call: either the free map is what it was, or the file has been linked** — every volume type,
    disk content, entry block, volume state and fault schedule: every way the call can end without a successful link write
    in its log (wrong parent, header block in use, unreadable extension chain, a block of the file in use, the name exists
    again, a refused write) leaves the free map block for block as it was when the call began. -/
theorem C05_undelete_file_restores_or_links (c : Cfg) (v pSect : Nat) (entry : Blk) (s : St)
    (hwf : TableWF (s.mem.vol v).bitmapTable) :
    Post AnyFault c (undelFile v pSect entry) s (fun _ s' => FreeMapEq v s.mem s'.mem ∨
      ∃ W e, writesOf s'.trace = W ++ writesOf s.trace ∧ e ∈ W ∧ e.status = 0 ∧
        ∃ d1, IsCreateLinkWr c d1 v (blkOfBytes ((s.sector (vsect c v pSect)).take 512)) (entry.w F_headerKey) e) :=
  (undelFile_spec c v pSect entry s hwf).mono fun _ _ h => h.2

/-- **`adfUndelDir` takes the directory's block exactly when it links the directory** (volumes without directory cache): after
    the call either the free map is block for block what it was (every refusal), or a successful link write for the
    directory's block is in the call's write log and exactly that block, free before, is used now. -/
theorem C05_undelete_dir_takes_one_or_none (c : Cfg) (v pSect : Nat) (entry : Blk) (s : St)
    (hwf : TableWF (s.mem.vol v).bitmapTable) (hnc : isDIRCACHE (c.vol v).dosType = false) :
    Post AnyFault c (undelDir v pSect entry) s (fun _ s' => FreeMapEq v s.mem s'.mem ∨
      (Linked c v (entry.w F_headerKey) s s' ∧ FreeMapStep v s.mem s'.mem (some (entry.w F_headerKey)))) :=
  (undelDir_spec c v pSect entry s).mono fun _ _ h => h.takes hnc hwf

/-- the two halves of the give-back bookkeeping: marking a free block and releasing it again restore the map pointwise,
    whatever else was marked in between (`Part` is the invariant: marked set `M`, released set `F`) -/
theorem C05_all_given_back_is_restored (v : Nat) (m0 m : Mem) (M F : List Nat)
    (h : Part v (m0.vol v).bitmapTable M F m) (hall : ∀ k ∈ M, k ∈ F) : FreeMapEq v m0 m :=
  h.done hall

/-- non-vacuity of the undelete theorems' hypotheses: the 40-block volume of C04 (`smallTbl`: blocks 2..39 free except 20
    and 21) as the library's memory state — the table is well-formed, block 22 (a deleted entry's header) is free, and the
    marking loop on the list [23, 20, 24] marks block 23 and stops at block 20, which is in use -/
def undelExState : St :=
  { mem := { vols := [{ hasBitmap := true, bitmapSize := 1, bitmapBlocks := [21], bitmapTable := C04.smallTbl, bitmapChg := [false] }] } }

example : TableWF (undelExState.mem.vol 0).bitmapTable ∧ bmIsFree (undelExState.mem.vol 0).bitmapTable 22 = true ∧
          bmIsFree (undelExState.mem.vol 0).bitmapTable 20 = false := by
  refine ⟨fun p hp => ?_, by decide, by decide⟩
  obtain rfl : p = _ := List.mem_singleton.1 hp
  refine ⟨rfl, fun w hw => ?_⟩
  rcases List.mem_append.1 hw with h | h
  · simp only [List.mem_cons, List.not_mem_nil, or_false] at h
    rcases h with rfl | rfl | rfl <;> decide
  · rw [List.eq_of_mem_replicate h]; decide

end Adf.C05
