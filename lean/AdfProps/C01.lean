/-
  C01 — File content fidelity: the positional kernel.
  Model: AdfModel/FileUtil.lean (adfPos2DataBlock, adfFileSize2Datablocks, adfFileDatablocks2Extblocks,
  adfFileRealSize) and the cursor conventions of AdfModel/File.lean.
  Spec: a file of `s` bytes with data-block size `bs` (488 OFS / 512 FFS) occupies ⌈s/bs⌉ data blocks; data
  block n is listed in the file header (slot n) when n < 72 and otherwise in extension block (n-72)/72 at
  slot (n-72)%72.  All statements are for every position and size (no bound), both block sizes; the
  32-bit side conditions of the C code (no wrap-around in pos - 72*bs, bs*72) are theorems too.
  The data path inside one data block: a write that fits into the current block performs no device access, returns the
  count asked for and puts exactly the caller's bytes at the position's offset of the handle's buffer (every other byte
  of the buffer kept); a flush writes that buffer to the block the handle designates (FFS: the 512 bytes as they are) and
  nothing but the file's own extension block, header and the bitmap besides; and (C19_read_returns_disk_bytes) what a
  read delivers is the disk content of the block the handle designates.
  NOT proved here (see MANIFEST level_note): that the read/write/truncate loops of the model refine the
  byte-array file across block boundaries and allocations; that verdict comes from the byte-array oracle on the real code.
-/
import AdfProofs.CacheLemmas
import AdfProofs.BitmapLemmas
import AdfProofs.FileWriteLemmas
import AdfModel.FileUtil
namespace Adf.C01

theorem div_of_decomp (a bs q r : Nat) (h : a = bs * q + r) (hr : r < bs) : a / bs = q ∧ a % bs = r :=
  (Nat.div_mod_unique (Nat.zero_lt_of_lt hr)).2 ⟨by rw [h, Nat.add_comm], hr⟩

theorem decomp (a bs : Nat) (hbs : 0 < bs) : ∃ q r, a = bs * q + r ∧ r < bs ∧ a / bs = q ∧ a % bs = r :=
  ⟨a / bs, a % bs, (Nat.div_add_mod a bs).symm, Nat.mod_lt a hbs, rfl, rfl⟩

/-- `adfPos2DataBlock` computes exactly the (block, offset, extension block, slot) of a byte position -/
theorem C01_pos2DataBlock_spec (pos bs : Nat) (hbs : 0 < bs) :
    let r := pos2DataBlock pos bs
    r.curDataN = pos / bs ∧ r.posInDataBlk = pos % bs ∧
    pos = r.curDataN * bs + r.posInDataBlk ∧ r.posInDataBlk < bs ∧
    (pos / bs < 72 → r.extBlock = none ∧ r.posInExtBlk = 0) ∧
    (72 ≤ pos / bs → r.extBlock = some ((pos / bs - 72) / 72) ∧ r.posInExtBlk = (pos / bs - 72) % 72) := by
  unfold pos2DataBlock MAX_DATABLK
  have hdm : pos = pos / bs * bs + pos % bs := (Nat.div_add_mod' pos bs).symm
  by_cases h : pos / bs < 72
  · rw [if_pos h]
    exact ⟨rfl, rfl, hdm, Nat.mod_lt _ hbs, fun _ => ⟨rfl, rfl⟩, fun h2 => absurd h (Nat.not_lt.2 h2)⟩
  · rw [if_neg h]
    refine ⟨rfl, rfl, hdm, Nat.mod_lt _ hbs, fun h2 => absurd h2 h, fun _ => ⟨?_, ?_⟩⟩
    · show some ((pos - bs * 72) / (bs * 72)) = some ((pos / bs - 72) / 72)
      rw [← Nat.div_div_eq_div_mul, Nat.sub_mul_div]
    · show (pos - bs * 72) / bs % 72 = (pos / bs - 72) % 72
      rw [Nat.sub_mul_div]

/-- no 32-bit wrap-around in the subtraction the C code performs: when the block index is ≥ 72 the
    position is at least 72 blocks -/
theorem C01_no_underflow (pos bs : Nat) (hbs : 0 < bs) (h : 72 ≤ pos / bs) : bs * 72 ≤ pos :=
  Nat.mul_comm .. ▸ (Nat.le_div_iff_mul_le hbs).1 h

/-- the intermediate products stay in 32 bits for both block sizes -/
theorem C01_no_overflow (bs : Nat) (h : bs = 488 ∨ bs = 512) : bs * 72 < 4294967296 := by
  rcases h with rfl | rfl <;> decide

/-- inverse direction: slot `s` of extension block `e` holds data block 72 + 72*e + s -/
theorem C01_ext_slot_inverse (e s : Nat) (hs : s < 72) :
    (72 + 72 * e + s - 72) / 72 = e ∧ (72 + 72 * e + s - 72) % 72 = s :=
  div_of_decomp _ 72 e s (by rw [Nat.add_assoc, Nat.add_sub_cancel_left]) hs

/-- a file of `m + 1` bytes: byte `m` is its last, in block `m / bs` -/
theorem fileSize2Datablocks_succ (m bs : Nat) : fileSize2Datablocks (m + 1) bs = m / bs + 1 := by
  unfold fileSize2Datablocks
  simp only [Nat.pos_iff_ne_zero]
  exact ceilDiv_succ m bs

/-- `adfFileSize2Datablocks` is the ceiling of size / block size -/
theorem C01_size2Datablocks_ceil (fsize bs : Nat) (hbs : 0 < bs) :
    fileSize2Datablocks fsize bs = (fsize + bs - 1) / bs := by
  unfold fileSize2Datablocks
  simp only [Nat.pos_iff_ne_zero]
  rw [Nat.add_sub_assoc hbs]
  exact ceilDiv fsize bs hbs

/-- the data blocks of a file cover it exactly: n blocks hold `fsize` bytes and n-1 do not -/
theorem C01_datablocks_cover (fsize bs : Nat) (hbs : 0 < bs) (hs : 0 < fsize) :
    let n := fileSize2Datablocks fsize bs
    1 ≤ n ∧ (n - 1) * bs < fsize ∧ fsize ≤ n * bs ∧ (fsize - 1) / bs = n - 1 := by
  obtain ⟨m, rfl⟩ := Nat.exists_eq_add_one.2 hs
  simp only [fileSize2Datablocks_succ, Nat.add_sub_cancel]
  exact ⟨Nat.le_add_left .., Nat.lt_succ_of_le (Nat.div_mul_le_self m bs), Nat.mul_comm .. ▸ Nat.lt_mul_div_succ m hbs, trivial⟩

theorem fileDatablocks2Extblocks_eq (n : Nat) : fileDatablocks2Extblocks n = (n - 1) / 72 := by
  cases n <;> rfl

/-- `adfFileDatablocks2Extblocks`: number of extension blocks needed for n data blocks -/
theorem C01_extblocks_spec (n : Nat) :
    fileDatablocks2Extblocks n = (if n ≤ 72 then 0 else (n - 72 + 71) / 72) := by
  rw [fileDatablocks2Extblocks_eq]
  split
  · exact Nat.div_eq_of_lt (Nat.lt_succ_of_le (Nat.sub_le_iff_le_add.2 ‹_›))
  · rw [← Nat.sub_add_comm (Nat.le_of_not_le ‹_›)]
    exact congrArg (· / 72) (Nat.add_sub_add_right n 71 1).symm

/-- the extension block that lists the LAST data block is the last extension block -/
theorem C01_last_ext_index (n : Nat) (h : 72 < n) :
    (n - 1 - 72) / 72 + 1 = fileDatablocks2Extblocks n := by
  rw [fileDatablocks2Extblocks_eq, ← Nat.add_div_right _ (by decide), Nat.sub_add_cancel (Nat.le_sub_one_of_lt h)]

/-- `adfFileRealSize` agrees with the two inline helpers (they are separate code in C) -/
theorem C01_realSize_agrees (size bs : Nat) (hbs : 0 < bs) :
    (fileRealSize size bs).1 = fileSize2Datablocks size bs ∧
    (fileRealSize size bs).2.1 = fileDatablocks2Extblocks (fileSize2Datablocks size bs) ∧
    (fileRealSize size bs).2.2 = fileSize2Blocks size bs := by
  have hd : (fileRealSize size bs).1 = fileSize2Datablocks size bs := by
    unfold fileRealSize fileSize2Datablocks
    simp only [Nat.pos_iff_ne_zero]
  have he : (fileRealSize size bs).2.1 = fileDatablocks2Extblocks (fileSize2Datablocks size bs) := by
    rw [← hd, C01_extblocks_spec]
    unfold fileRealSize MAX_DATABLK
    simp only
    generalize size / bs + (if size % bs ≠ 0 then 1 else 0) = d
    split
    · rw [if_neg (Nat.not_le.2 ‹_›), ceilDiv _ 72 (by decide)]
    · rw [if_pos (Nat.not_lt.1 ‹_›)]
  refine ⟨hd, he, ?_⟩
  unfold fileSize2Blocks fileSize2Extblocks
  rw [← he, ← hd, Nat.add_comm (fileRealSize size bs).1]
  rfl

/-- shrinking never needs more blocks: the counts used by the truncation are monotone in the size, so the
    number of blocks to release, (nD_old + nE_old) - (nD_new + nE_new), is a true difference -/
theorem C01_truncate_monotone (old new bs : Nat) (hbs : 0 < bs) (h : new ≤ old) :
    fileSize2Datablocks new bs ≤ fileSize2Datablocks old bs ∧
    fileDatablocks2Extblocks (fileSize2Datablocks new bs) ≤ fileDatablocks2Extblocks (fileSize2Datablocks old bs) := by
  have h1 : fileSize2Datablocks new bs ≤ fileSize2Datablocks old bs := by
    rw [C01_size2Datablocks_ceil _ _ hbs, C01_size2Datablocks_ceil _ _ hbs]
    exact Nat.div_le_div_right (Nat.sub_le_sub_right (Nat.add_le_add_right h bs) 1)
  rw [fileDatablocks2Extblocks_eq, fileDatablocks2Extblocks_eq]
  exact ⟨h1, Nat.div_le_div_right (Nat.sub_le_sub_right h1 1)⟩

/-- the end-of-file cursor convention of the handle (`adfFileSeekEOF_`): with the last block loaded,
    `nDataBlock = ⌈s/bs⌉` and `posInDataBlk = bs` when the size is block-aligned, the decomposition
    `pos = (nDataBlock-1)*bs + posInDataBlk` still gives the size -/
theorem C01_eof_cursor (s bs : Nat) (hbs : 0 < bs) (hs : 0 < s) :
    let n := fileSize2Datablocks s bs
    let pidb := if s % bs = 0 then bs else s % bs
    (n - 1) * bs + pidb = s ∧ 0 < pidb ∧ pidb ≤ bs := by
  obtain ⟨m, rfl⟩ := Nat.exists_eq_add_one.2 hs
  have hc := ceilDiv_succ m bs
  have hd := Nat.div_add_mod' (m + 1) bs
  simp only [fileSize2Datablocks_succ, Nat.add_sub_cancel]
  split
  · -- block-aligned: `(m + 1) / bs = m / bs + 1` full blocks
    rename_i h0
    rw [if_neg (not_not_intro h0), Nat.add_zero] at hc
    rw [h0, hc, Nat.add_mul, Nat.one_mul, Nat.add_zero] at hd
    exact ⟨hd, hbs, Nat.le_refl _⟩
  · rename_i h0
    rw [if_pos h0] at hc
    rw [Nat.add_right_cancel hc] at hd
    exact ⟨hd, Nat.pos_of_ne_zero h0, Nat.le_of_lt (Nat.mod_lt _ hbs)⟩

/-- non-vacuity and the boundary cases of the property text, evaluated by the kernel -/
example : pos2DataBlock (72 * 488) 488 = ⟨some 0, 0, 0, 72⟩ ∧ pos2DataBlock (72 * 488 - 1) 488 = ⟨none, 0, 487, 71⟩ ∧
          pos2DataBlock (144 * 512 + 5) 512 = ⟨some 1, 0, 5, 144⟩ ∧
          fileSize2Datablocks (72 * 512) 512 = 72 ∧ fileSize2Datablocks (72 * 512 + 1) 512 = 73 ∧
          fileDatablocks2Extblocks 72 = 0 ∧ fileDatablocks2Extblocks 73 = 1 ∧ fileDatablocks2Extblocks 144 = 1 ∧
          fileDatablocks2Extblocks 145 = 2 := by decide

/-- **a write inside the current data block** (position not on a block boundary, `buf` no longer than what is left of the
    block): no device access at all, the count returned is the count asked for, the handle is `wroteInBlock` -/
theorem C01_write_in_block (c : Cfg) (dbs doff fuel : Nat) (h : FileH) (buf : Bytes) (written : Nat) (s : St)
    (hmid : h.pos % dbs ≠ 0) (hne : buf ≠ []) (hfit : buf.length ≤ dbs - h.posInDataBlk) :
    run c (fileWriteLoop dbs doff (fuel + 1) h buf written) s = (.ok (written + buf.length, wroteInBlock doff h buf), s) := by
  have he : buf.isEmpty = false := by cases buf with | nil => exact absurd rfl hne | cons _ _ => rfl
  unfold fileWriteLoop
  -- one round: no block boundary is met, all of `buf` fits, and the next round finds nothing left
  simp only [he, Bool.false_eq_true, if_false, if_neg hmid, run_bind', run_pure', Bool.not_true, Nat.min_eq_left hfit,
    List.take_length, List.drop_length, fileWriteLoop_nil]
  rfl

/-- afterwards the buffer holds the caller's bytes at the position's offset, every other byte of it is unchanged, and the
    position advanced by the count -/
theorem C01_buffer_holds_written_bytes (doff : Nat) (h : FileH) (buf : Bytes) (hin : doff + h.posInDataBlk + buf.length ≤ 512) :
    slice (wroteInBlock doff h buf).curData (doff + h.posInDataBlk) buf.length = buf ∧
    (∀ i, i < doff + h.posInDataBlk ∨ doff + h.posInDataBlk + buf.length ≤ i →
      (wroteInBlock doff h buf).curData.getD i 0 = (padTo h.curData 512).getD i 0) ∧
    (wroteInBlock doff h buf).pos = h.pos + buf.length ∧ (wroteInBlock doff h buf).curDataPtr = h.curDataPtr :=
  ⟨slice_putAt_self (by rw [padTo_length]; exact Nat.le_of_add_right_le hin),
    fun i hi => getD_putAt_out _ _ _ i 0 (by rw [padTo_length]; exact hin) hi, rfl, rfl⟩

/-- a flush hands exactly that buffer to the device, addressed to the block the handle designates; on FFS volumes the
    sector image is the buffer itself -/
theorem C01_flush_writes_buffer (c : Cfg) (h : FileH) (s : St) (hwf : BlkWF h.hdr)
    (hnc : isDIRCACHE (c.vol h.vol).dosType = false) :
    Post AnyFault c (fileFlush h) s (fun _ s' => ∃ W, writesOf s'.trace = W ++ writesOf s.trace ∧ FlushWrites c h W) := by
  unfold fileFlush
  refine Post.ite (fun _ => Post.pure ⟨[], rfl, [], [], [], [], rfl, .inl rfl, .inl rfl, .inl rfl, .inl rfl⟩) (fun _ => ?_)
  apply Post.bind; apply Post.getVolCfg
  apply Post.bind
  -- 1. the extension block; of the handle only `curExt` changes
  refine Post.mono (Q := fun r s1 => ∃ x Wext, r.2 = { h with curExt := x } ∧ Wrote s s1 Wext ∧
      (Wext = [] ∨ ∃ ce st, h.curExt = some ce ∧ Wext =
        [Ev.wr (some h.vol) (vsect c h.vol (ce.w F_headerKey)) 512 (bytesOfBlk (withSum (fileExtFixed ce) F_checkSum)) st])) ?_ ?_
  · cases hce : h.curExt with
    | none => exact Post.pure ⟨_, [], rfl, .refl s, .inl rfl⟩
    | some ce =>
      apply Post.bind; apply Post.writeFileExtBlock
      intro rc s1 w
      obtain ⟨W, hW, h1⟩ := w.atMostOne
      exact Post.pure ⟨_, W, rfl, hW, h1.imp id fun ⟨st, e⟩ => ⟨ce, st, rfl, e⟩⟩
  rintro ⟨rc1, _⟩ s1 ⟨x, Wext, rfl, hW1, hext⟩
  refine Post.ite (fun _ => Post.pure ⟨Wext, hW1, [], [], [], Wext, rfl, hext, .inl rfl, .inl rfl, .inl rfl⟩) (fun _ => ?_)
  apply Post.bind
  -- 2. the data block; only `curData` changes
  refine Post.mono (Q := fun r s2 => ∃ d Wdat, r.2 = { h with curExt := x, curData := d } ∧ Wrote s1 s2 Wdat ∧
      (Wdat = [] ∨ ∃ st, Wdat = [Ev.wr (some h.vol) (vsect c h.vol h.curDataPtr) 512
        (dataImage (c.vol h.vol) (flushData (c.vol h.vol) h)) st])) ?_ ?_
  · refine Post.ite (fun _ => ?_) (fun _ => Post.pure ⟨_, [], rfl, .refl s1, .inl rfl⟩)
    apply Post.bind; apply Post.writeDataBlock
    intro r s2 W hW h1
    exact Post.pure ⟨_, W, rfl, hW, h1⟩
  rintro ⟨rc2, _⟩ s2 ⟨d, Wdat, rfl, hW2, hdat⟩
  have hW2 := hW1.trans hW2
  refine Post.ite (fun _ => Post.pure ⟨_, hW2, [], [], Wdat, Wext, rfl, hext, hdat, .inl rfl, .inl rfl⟩) (fun _ => ?_)
  -- 3. the header
  apply Post.bind
  refine (fileFlushHdr_spec c { h with curExt := x, curData := d } s2 hwf).mono ?_
  rintro ⟨rc3, _⟩ s3 ⟨⟨hdr, rfl⟩, hH⟩
  have hhdr : ∃ Whdr, Wrote s s3 (Whdr ++ (Wdat ++ Wext)) ∧
      (Whdr = [] ∨ ∃ data st, Whdr = [Ev.wr (some h.vol) (vsect c h.vol (h.hdr.w F_headerKey)) 512 data st]) := by
    rcases hH with hH | ⟨data, st, hH, _⟩
    · exact ⟨[], hW2.trans hH, .inl rfl⟩
    · exact ⟨[_], hW2.trans hH, .inr ⟨data, st, rfl⟩⟩
  obtain ⟨Whdr, hW3, hhd⟩ := hhdr
  refine Post.ite (fun _ => Post.pure ⟨_, hW3, [], Whdr, Wdat, Wext, (List.append_assoc ..).symm, hext, hdat, hhd, .inl rfl⟩)
    (fun _ => ?_)
  rw [if_neg (by rw [hnc]; decide)]
  -- 4. the bitmap
  apply Post.bind
  refine (updateBitmap_order c h.vol s3).mono ?_
  rintro rcb s4 ⟨Wb, hWb, hbo⟩
  exact Post.pure ⟨_, hW3.trans hWb, Wb, Whdr, Wdat, Wext, by simp only [List.append_assoc], hext, hdat, hhd, hbo⟩

theorem C01_ffs_image_is_buffer (vc : VolCfg) (d : Bytes) (hffs : vc.dosType % 2 ≠ 0) (hl : d.length = 512) :
    dataImage vc d = d := by
  unfold dataImage; rw [if_neg hffs]; exact padTo_id d 512 hl

/-- the premises of `C01_write_in_block` are met, e.g., by 3 bytes written at position 5 of a 512-byte block -/
example : (5 % 512 ≠ 0) ∧ (([1, 2, 3] : Bytes) ≠ []) ∧ ([1, 2, 3] : Bytes).length ≤ 512 - 5 := by decide

end Adf.C01
