/-
  C14 — Format/mount round trip: the geometry arithmetic, for every volume size.
  Model: AdfModel/Bitmap.lean (nBlock2bitmapSize, index arithmetic), AdfModel/Vol.lean (createVol:
  root = n/2; pages; extension blocks).
  A volume of n blocks maps blocks 2..n-1 (n-2 of them) in pages of 4064 bits; the root block lists
  25 pages, each bitmap-extension block 127 more.  The theorems hold for all n (no sampled sizes).
  NOT proved (see MANIFEST): that the model's format function, run on every geometry, yields a well-formed
  volume — that is checked per geometry by tools/props/C14.py (decoder + closed form) on code and model.
-/
import AdfProofs.BitmapLemmas
namespace Adf.C14

/-- `nBlock2bitmapSize` is the ceiling of n / 4064 -/
theorem C14_pages_ceil (n : Nat) : nBlock2bitmapSize n = (n + 4063) / 4064 :=
  ceilDiv n 4064 (by decide)

/-- the pages cover exactly the mapped blocks: enough bits, and no page is superfluous -/
theorem C14_pages_cover (n : Nat) (hn : 0 < n) :
    n ≤ nBlock2bitmapSize n * 4064 ∧ (nBlock2bitmapSize n - 1) * 4064 < n := by
  obtain ⟨m, rfl⟩ := Nat.exists_eq_add_one.2 hn
  rw [nBlock2bitmapSize_succ]
  exact ⟨Nat.mul_comm .. ▸ Nat.lt_mul_div_succ m (by decide), Nat.lt_succ_of_le (Nat.div_mul_le_self m 4064)⟩

/-- every block of the volume (2 ≤ b < nblocks) indexes a page that exists, a word 1..127 of it and a bit 0..31:
    the unchecked table accesses of adfIsBlockFree / adfSetBlockUsed / adfSetBlockFree are in bounds for
    every block number inside the volume -/
theorem C14_block_index_in_table (nblocks b : Nat) (hb : 2 ≤ b) (hlt : b < nblocks) :
    (b - 2) / BM_PAGE_BLOCKS < nBlock2bitmapSize (nblocks - 2) ∧
    1 ≤ 1 + ((b - 2) / 32) % 127 ∧ 1 + ((b - 2) / 32) % 127 ≤ 127 ∧ (b - 2) % 32 < 32 := by
  refine ⟨div_lt_nBlock2bitmapSize (Nat.sub_lt_sub_right hb hlt), Nat.le_add_right .., ?_, Nat.mod_lt _ (by decide)⟩
  rw [Nat.add_comm]; exact Nat.mod_lt _ (by decide)

/-- distinct blocks have distinct (page, word, bit) coordinates: no two blocks share a bit -/
theorem C14_bit_coordinates_injective (a b : Nat) (ha : 2 ≤ a) (hb : 2 ≤ b)
    (h1 : (a - 2) / 4064 = (b - 2) / 4064) (h2 : ((a - 2) / 32) % 127 = ((b - 2) / 32) % 127)
    (h3 : (a - 2) % 32 = (b - 2) % 32) : a = b :=
  coord_injective a b ha hb (by unfold coord BM_PAGE_BLOCKS; rw [h1, h2, h3])

/-- number of bitmap-extension blocks `adfWriteNewBitmap` allocates for `size` pages -/
def nExtBlocks (size : Nat) : Nat :=
  if size > BM_SIZE then (size - BM_SIZE) / 127 + (if (size - BM_SIZE) % 127 ≠ 0 then 1 else 0) else 0

/-- the guard `size > BM_SIZE` of the C code is subsumed by the subtraction: rounding up 0 pages gives 0 blocks -/
theorem nExtBlocks_eq (size : Nat) : nExtBlocks size = (size - 25 + 126) / 127 := by
  unfold nExtBlocks BM_SIZE
  split
  · exact ceilDiv (size - 25) 127 (by decide)
  · rw [Nat.sub_eq_zero_of_le (Nat.not_lt.1 ‹_›)]

/-- root slots + extension blocks hold exactly the pages: enough room, and no extension block is superfluous -/
theorem C14_ext_blocks_cover (size : Nat) :
    size ≤ 25 + 127 * nExtBlocks size ∧ (25 < size → 25 + 127 * (nExtBlocks size - 1) < size) ∧
    (size ≤ 25 → nExtBlocks size = 0) := by
  rw [nExtBlocks_eq]; omega

theorem nExtBlocks_le (size : Nat) : nExtBlocks size ≤ size := by
  rw [nExtBlocks_eq]; omega

/-- the closed form the checks compare the library's count against: on a fresh volume of n blocks the blocks in use
    are the root block, the pages, the extension blocks and (DIRCACHE) one cache block -/
def freshFree (n : Nat) (dirc : Bool) : Nat :=
  let pages := nBlock2bitmapSize (n - 2)
  n - 2 - 1 - pages - nExtBlocks pages - (if dirc then 1 else 0)

/-- for every volume of at least 16 blocks the formula is a true difference (nothing is clipped at 0)
    and the volume has room for its own metadata -/
theorem C14_fresh_free_exact (n : Nat) (dirc : Bool) (hn : 16 ≤ n) :
    freshFree n dirc + 1 + nBlock2bitmapSize (n - 2) + nExtBlocks (nBlock2bitmapSize (n - 2)) + (if dirc then 1 else 0) = n - 2 := by
  obtain ⟨k, rfl⟩ := Nat.exists_eq_add_of_le' hn
  simp only [freshFree, show k + 16 - 2 = k + 13 + 1 from rfl, nBlock2bitmapSize_succ]
  have he := nExtBlocks_le ((k + 13) / 4064 + 1)
  have hq := Nat.div_mul_le_self (k + 13) 4064
  have hd : (if dirc then 1 else 0) ≤ 1 := by cases dirc <;> decide
  generalize (k + 13) / 4064 = q at *
  -- the volume's own metadata fits: at most 2 + 2 (q + 1) blocks, and 4064 q ≤ k + 13
  have : 1 + (q + 1) + nExtBlocks (q + 1) + (if dirc then 1 else 0) ≤ k + 13 + 1 := by omega
  omega

/-- root block position of `adfCreateVol` / `adfMountFlop`: inside the volume, behind the boot blocks -/
theorem C14_root_position (n : Nat) (hn : 4 ≤ n) : 2 ≤ n / 2 ∧ n / 2 < n := by omega

/-- the volume range from a cylinder range: `len` cylinders of `heads*secs` blocks -/
theorem C14_range_size (heads secs start len : Nat) (h : 0 < heads * secs * len) :
    (heads * secs * start + heads * secs * len - 1) - heads * secs * start + 1 = heads * secs * len := by
  rw [Nat.add_sub_assoc h, Nat.add_sub_cancel_left, Nat.sub_add_cancel h]

/-- witnesses: DD floppy, HD floppy, the sizes that used to mis-mount, and a volume that needs an extension block -/
example : nBlock2bitmapSize (1760 - 2) = 1 ∧ freshFree 1760 false = 1756 ∧ freshFree 1760 true = 1755 ∧
          freshFree 3520 false = 3516 ∧ nBlock2bitmapSize (4067 - 2) = 2 ∧ freshFree 4067 false = 4062 ∧
          nBlock2bitmapSize (110000 - 2) = 28 ∧ nExtBlocks 28 = 1 ∧ freshFree 110000 false = 109968 := by decide

end Adf.C14
