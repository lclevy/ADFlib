/-
  C08 — Graceful exhaustion: the allocator's side of it.
  The library asks for blocks through adfGetFreeBlocks (one block, or extension block + data block together).
  Theorems (for the model's `getFreeBlocks`, i.e. for every volume state, any number of blocks):
   * all-or-nothing: when it reports failure NOTHING has changed — no device access, no change of the in-memory
     bitmap (so a failed allocation leaks nothing and the caller can report "volume full" with the state intact);
   * it fails only when the volume really has fewer free blocks than requested (C04_scan_complete), and
     succeeds whenever enough are free (C04_scan_succeeds): after entries are deleted the freed space can be
     allocated again to the same capacity.
   * the callers that create entries: `adfCreateEntry`, `adfCreateDir` and `adfCreateFile` on a volume whose scan finds
     no free block fail with NO device write and the library's memory (bitmap, free count) unchanged — for every
     directory and chain content on the disk, every flavour and every fault schedule; "no free block" is exactly
     "no block of the volume is marked free" (`C08_volfull_iff_no_free_block`).
   * the data-write path: `adfFileCreateNextBlock` on a full volume fails at each of its three allocation sites with no
     device write, bitmap and handle (header copy, position, buffer) unchanged, and the write loop standing at end of file
     on a block boundary returns exactly the count stored so far.
  NOT proved (MANIFEST): that the bytes counted as stored are the bytes later read back (whole-history refinement), the
  exhaustion inside directory-cache growth, and the refill to the same capacity over a history; the exhaustion profiles of
  tools/props/C08.py judge those on the real code.
-/
import AdfProofs.BitmapLemmas
import AdfProofs.ProgLemmas
import AdfProps.C04
import AdfProofs.FileWriteLemmas
import AdfProofs.Create
namespace Adf.C08

theorem run_then_pure_ne {β α : Type} (c : Cfg) (p : Prog β) (a : α) (s : St) (x : α) (hx : x ≠ a) :
    (run c (p >>= fun _ => (pure a : Prog α)) s).1 ≠ Res.ok x := by
  rw [run_bind']
  rcases run c p s with ⟨_ | _, _⟩
  · exact fun h => hx (Res.ok.inj h).symm
  · exact nofun

/-- a failed allocation changes nothing: same disk, same trace, same memory -/
theorem C08_alloc_all_or_nothing (c : Cfg) (v nb : Nat) (s : St)
    (h : (run c (getFreeBlocks v nb) s).1 = Res.ok none) :
    (run c (getFreeBlocks v nb) s).2 = s := by
  have p : Post AnyFault c (getFreeBlocks v nb) s (fun r s' => r = none → s' = s) :=
    Post.getFreeBlocks (fun _ _ => rfl) fun _ _ _ => nofun
  generalize hx : run c (getFreeBlocks v nb) s = x at h
  obtain ⟨r, s'⟩ := x
  cases h
  exact p.holds hx rfl

/-- the scan comes up short exactly when fewer than `nb` blocks of the volume are free -/
theorem scan_short_iff {tbl : List Blk} {root last nb : Nat} (hroot : 2 < root) (hr : root ≤ last) :
    (scanFree tbl root last (last + 2) root nb).length ≠ nb ↔ ((circ root last).filter (bmIsFree tbl)).length < nb := by
  rw [scanFree_length tbl root last (last + 2) nb hroot hr (Nat.le_add_right ..)]
  omega

/-- a failed allocation means the volume has fewer than `nb` free blocks (in terms of the pure scan) -/
theorem C08_fails_only_when_full (tbl : List Blk) (root last nb : Nat) (hroot : 2 < root) (hr : root ≤ last)
    (hfail : (scanFree tbl root last (last + 2) root nb).length ≠ nb) :
    ((circ root last).filter (bmIsFree tbl)).length < nb :=
  (scan_short_iff hroot hr).1 hfail

/-- and conversely: with enough free blocks the request is served (refill to the same capacity) -/
theorem C08_serves_when_possible (tbl : List Blk) (root last nb : Nat) (hroot : 2 < root) (hr : root ≤ last)
    (h : nb ≤ ((circ root last).filter (bmIsFree tbl)).length) :
    (scanFree tbl root last (last + 2) root nb).length = nb :=
  C04.C04_scan_succeeds tbl root last (last + 2) nb hroot hr (Nat.le_add_right ..) h

/-- witness: the 40-block table of C04 has 36 free blocks: 36 can be had, 37 cannot -/
example : (scanFree C04.smallTbl 20 39 41 20 36).length = 36 ∧ (scanFree C04.smallTbl 20 39 41 20 37).length ≠ 37 := by decide

/-- "the scan finds nothing" is exactly "no block of the volume is marked free" -/
theorem C08_volfull_iff_no_free_block (tbl : List Blk) (root last : Nat) (hroot : 2 < root) (hr : root ≤ last) :
    (scanFree tbl root last (last + 2) root 1).length ≠ 1 ↔ ((circ root last).filter (bmIsFree tbl)).length = 0 :=
  (scan_short_iff hroot hr).trans Nat.lt_one_iff

theorem C08_create_entry_full_changes_nothing (c : Cfg) (v : Nat) (dir : Blk) (name : Bytes) (s : St)
    (hfull : VolFull c v s.mem) :
    Post AnyFault c (createEntry v dir name) s (fun r s' => r = (none, dir) ∧ Untouched s s') :=
  (createEntry_run c v dir name s).mono fun _ _ h => ⟨(h.full hfull).1, (h.full hfull).2.untouched⟩

theorem C08_create_dir_full_changes_nothing (c : Cfg) (v nParent : Nat) (name : Bytes) (s : St)
    (hfull : VolFull c v s.mem) :
    Post AnyFault c (createDir v nParent name) s (fun rc s' => rc ≠ rcOK ∧ Untouched s s') :=
  (createDir_run c v nParent name s).mono fun _ _ h => h.full hfull

theorem C08_create_file_full_changes_nothing (c : Cfg) (v nParent : Nat) (name : Bytes) (s : St)
    (hfull : VolFull c v s.mem) :
    Post AnyFault c (createFile v nParent name) s (fun r s' => r.1 ≠ rcOK ∧ Untouched s s') :=
  (createFile_run c v nParent name s).mono fun _ _ h => h.full hfull

/-- with no free block a request for two blocks fails too -/
theorem C08_full_means_no_pair (c : Cfg) (v : Nat) (m : Mem) (hroot : 2 < (c.vol v).rootBlock)
    (hr : (c.vol v).rootBlock ≤ (c.vol v).lastBlock - (c.vol v).firstBlock) (h : VolFull c v m) : VolFull2 c v m :=
  (scan_short_iff hroot hr).2 (Nat.lt_succ_of_lt ((scan_short_iff hroot hr).1 h))

/-- **the write path on a full volume** (`adfFileCreateNextBlock`, all three allocation sites — data block listed in the
    header, extension block + data block, data block listed in an extension block): the call fails, no write reaches the
    device, bitmap and memory are unchanged, and the handle's header copy, position and data buffer are kept -/
theorem C08_next_block_full_changes_nothing (c : Cfg) (h : FileH) (s : St) (hroot : 2 < (c.vol h.vol).rootBlock)
    (hr : (c.vol h.vol).rootBlock ≤ (c.vol h.vol).lastBlock - (c.vol h.vol).firstBlock) (hfull : VolFull c h.vol s.mem) :
    Post AnyFault c (fileCreateNextBlock h) s (fun r s' => r.1 ≠ rcOK ∧ Untouched s s' ∧ KeptW h r.2) :=
  (fileCreateNextBlock_run c h s).mono fun _ _ r => by
    cases r with
    | refused failed reads kept => exact ⟨failed, reads.untouched, kept⟩
    | took alloc => exact alloc.room.elim (absurd hfull) (absurd (C08_full_means_no_pair c h.vol s.mem hroot hr hfull))

/-- **short count**: `adfFileWrite`'s loop, standing at end of file on a block boundary of a full volume, returns exactly
    the count stored so far and changes nothing -/
theorem C08_write_loop_full_short_count (c : Cfg) (dbs doff fuel : Nat) (h : FileH) (buf : Bytes) (written : Nat) (s : St)
    (hroot : 2 < (c.vol h.vol).rootBlock)
    (hr : (c.vol h.vol).rootBlock ≤ (c.vol h.vol).lastBlock - (c.vol h.vol).firstBlock) (hfull : VolFull c h.vol s.mem)
    (hb : h.pos % dbs = 0) (he : h.pos = h.byteSize) :
    Post AnyFault c (fileWriteLoop dbs doff fuel h buf written) s (fun r s' => r.1 = written ∧ Untouched s s' ∧ KeptW h r.2) := by
  cases fuel with
  | zero => unfold fileWriteLoop; exact Post.pure ⟨rfl, (Reads.refl s).untouched, .refl h⟩
  | succ fuel =>
    unfold fileWriteLoop
    refine Post.ite (fun _ => Post.pure ⟨rfl, (Reads.refl s).untouched, .refl h⟩) (fun _ => ?_)
    apply Post.bind
    refine Post.ite (fun _ => Post.ite (fun _ => ?_) (absurd he)) (absurd hb)
    apply Post.bind
    refine (C08_next_block_full_changes_nothing c h s hroot hr hfull).mono ?_
    rintro ⟨rc, h1⟩ s1 ⟨hrc, hq1, hk1⟩
    refine Post.ite (fun _ => Post.pure ?_) (fun h => absurd hrc h)
    exact Post.ite (fun _ => Post.pure ⟨rfl, hq1, hk1⟩) (fun h => absurd rfl h)

/-- witness for `VolFull`: a 40-block table with every bit clear has no free block -/
example : (scanFree [List.replicate 128 0] 20 39 41 20 1).length ≠ 1 := by decide

end Adf.C08
