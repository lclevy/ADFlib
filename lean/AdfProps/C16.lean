/-
  C16 — Timestamps: calendar <-> Amiga day count conversions are exact inverses.
  Property theorems only; helper lemmas are in AdfProofs/DateLemmas.lean.
  Model: AdfModel/Util.lean (C-mirror of adfDays2Date / adfTime2AmigaTime / adfIsLeap).
  Spec:  AdfSpec/Calendar.lean (proleptic Gregorian calendar, independent of the code).
-/
import AdfProofs.DateLemmas
namespace Adf.C16
open Spec

/-- `adfDays2Date` never indexes past `jm[11]` and always produces a date (every day count ≥ 0). -/
theorem C16_days2Date_total (n : Nat) : (days2Date n).isSome := by
  obtain ⟨y, m, d, he, -⟩ := days2Date_spec n 0 0 0
  rw [he]; rfl

/-- calendar → days → calendar is the identity, for every valid date from 1978 on, no upper bound. -/
theorem C16_roundtrip (y m d h mi s : Nat) (hy : 1978 ≤ y) (hv : validDate y m d) :
    days2Date (time2Amiga y m d h mi s).1 = some (y, m, d) :=
  (days2Date_eq_some_iff h mi s).2 ⟨hy, hv, rfl⟩

/-- days → calendar → days is the identity, and the calendar date produced is valid. -/
theorem C16_inverse (n y m d h mi s : Nat) (hd : days2Date n = some (y, m, d)) :
    (time2Amiga y m d h mi s).1 = n ∧ validDate y m d ∧ 1978 ≤ y :=
  have ⟨hy, hv, hn⟩ := (days2Date_eq_some_iff h mi s).1 hd
  ⟨hn, hv, hy⟩

/-- the stored day number is the real (Gregorian) number of days since 1978-01-01. -/
theorem C16_gregorian (y m d h mi s : Nat) (hy : 1978 ≤ y) (hv : validDate y m d) :
    (time2Amiga y m d h mi s).1 + epoch = civil y m d := by
  obtain ⟨k, rfl⟩ := Nat.exists_eq_add_of_le hy
  rw [time2Amiga_days, sumMonths_monthStart _ m hv.2.1, isLeap_eq_leap, civil, ← sumYears_epoch]
  omega

/-- minutes and ticks: `mins/60`, `mins%60`, `ticks/50` (what listings report) give back h:m:s. -/
theorem C16_time_of_day (y m d h mi s : Nat) (hmi : mi < 60) :
    let t := time2Amiga y m d h mi s
    t.2.1 / 60 = h ∧ t.2.1 % 60 = mi ∧ t.2.2 / 50 = s :=
  ⟨horner_div h hmi, horner_mod h hmi, Nat.mul_div_cancel s (by decide)⟩

/-- non-vacuity: the hypotheses are met by ordinary dates, and the famous failing date of the
    unfixed code (2000-03-01) now maps to day 8095 = 8034 + 31 + 29 + 1. -/
example : validDate 2000 3 1 ∧ (time2Amiga 2000 3 1 12 0 0).1 = 8095 ∧ days2Date 8095 = some (2000, 3, 1) := by
  have h1 : validDate 2000 3 1 := by decide
  have h2 : (time2Amiga 2000 3 1 12 0 0).1 = 8095 := by decide
  refine ⟨h1, h2, ?_⟩
  have := C16_roundtrip 2000 3 1 12 0 0 (by omega) h1
  rwa [h2] at this
example : validDate 2024 2 29 ∧ days2Date (time2Amiga 2024 2 29 0 0 0).1 = some (2024, 2, 29) :=
  ⟨by decide, C16_roundtrip 2024 2 29 0 0 0 (by omega) (by decide)⟩

end Adf.C16
