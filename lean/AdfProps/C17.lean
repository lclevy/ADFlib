/-
  C17 — Initialised, reproducible output.
  The model is a pure function of (configuration, state, operation): there is no notion of stray memory in it, so the
  model-side content of C17 is what makes the comparison with the C code meaningful:
   * `C17_disk_sectors_full`: in every state reachable by ANY program under ANY fault schedule every stored sector
     has exactly 512 defined bytes (a short buffer is zero-padded, never completed from elsewhere);
   * `C17_write_stores_padded`: what a successful write stores is `padTo data 512`, a function of the data alone;
   * typed writers hand 512 bytes to the device whenever the struct image has 128 words;
   * `C17_log_independent`: the outcome of a program (result, disk, memory, counters) does not depend on the
     access log kept in the state — the only component of the state that is not API-visible input.
  That the C library's bytes equal the model's for every history, and do so under differing heap/stack fill patterns
  (pattern/zero builds, wrapped allocator poisoning), is the job of the check (tools/props/C17.py), not of a theorem.
-/
import AdfProofs.Hoare
import AdfProps.C03
namespace Adf.C17

def DiskFull (s : St) : Prop := ∀ n, (s.sector n).length = 512

theorem padTo_length (b : Bytes) (n : Nat) : (padTo b n).length = n := Adf.padTo_length b n

theorem sector_insert (s : St) (p n : Nat) (b : Bytes) :
    ({ s with disk := s.disk.insert p b } : St).sector n = if p = n then b else s.sector n := by
  simp only [St.sector, Std.HashMap.getD_insert, beq_iff_eq]

private theorem store_full (e : Ev) {d : Std.HashMap Nat Bytes} (h : ∀ n, (d.getD n zeroBlock).length = 512) (n : Nat) :
    ((e.store d).getD n zeroBlock).length = 512 := by
  cases e with
  | rd vol m size st => exact h n
  | wr vol m size b st =>
    cases st with
    | succ k => exact h n
    | zero =>
      show ((d.insert m (padTo b 512)).getD n zeroBlock).length = 512
      rw [Std.HashMap.getD_insert]
      split
      · exact padTo_length _ _
      · exact h n

theorem devWriteRaw_diskFull (c : Cfg) (vol : Option Nat) (p size : Nat) (b : Bytes) (s : St) (h : DiskFull s) :
    DiskFull (devWriteRaw c vol p size b s).2 := by
  rw [devWriteRaw_eq]; exact store_full _ h

theorem devReadRaw_sector (c : Cfg) (vol : Option Nat) (p size : Nat) (s : St) (n : Nat) :
    (devReadRaw c vol p size s).2.sector n = s.sector n := by
  rw [devReadRaw_eq]; rfl

theorem prim_diskFull (c : Cfg) {β : Type} (pr : Prim β) (s : St) (h : DiskFull s) : DiskFull (runPrim c pr s).2 := by
  obtain ⟨_, s', hr, hs⟩ := runPrim_step c pr s
  rw [hr]
  cases hs with
  | skip => exact h
  | mem m => exact h
  | access e _ => exact store_full e h

/-- **every stored sector has exactly 512 defined bytes**, in every state reachable by any program of the library
    model under any fault schedule -/
theorem C17_disk_sectors_full (c : Cfg) {α : Type} (p : Prog α) (s : St) (h : DiskFull s) : DiskFull (run c p s).2 :=
  run_state_inv c DiskFull (fun pr s hs => prim_diskFull c pr s hs) p s h

/-- the empty disk (every sector reads as 512 zero bytes) satisfies the invariant: the premise is reachable -/
theorem C17_empty_disk_full : DiskFull ({} : St) := by
  intro n
  have : ({} : St).sector n = zeroBlock := by simp [St.sector]
  rw [this]; unfold zeroBlock; exact List.length_replicate

/-- what a successful block write stores depends on the data handed over and on nothing else -/
theorem C17_write_stores_padded (c : Cfg) (v n : Nat) (b : Bytes) (s : St) :
    ∃ rc s', run c (volWrite v n b) s = (.ok rc, s') ∧
      (rc = rcOK → s'.disk = s.disk.insert (vsect c v n) (padTo b 512)) ∧ (rc ≠ rcOK → s'.disk = s.disk) := by
  obtain ⟨rc, s', hr, _, h1, h2⟩ := run_volWrite_spec c v n b s
  exact ⟨rc, s', hr, fun h => (h2 h).1, h1⟩

/-- a struct image of 128 words always serialises to a full sector, with or without checksum / fixed fields -/
theorem C17_struct_image_full (b : Blk) (h : b.length = 128) (k : Nat) :
    (bytesOfBlk b).length = 512 ∧ (bytesOfBlk (withSum b k)).length = 512 :=
  ⟨C03.C03_block_length b h, C03.C03_block_length _ ((Blk.setW_length b k _).trans h)⟩

/-- block images decoded from the device always have 128 words, so every read-modify-write cycle writes 512 bytes -/
theorem C17_decoded_image_full (bytes : Bytes) (k : Nat) :
    (bytesOfBlk (withSum (blkOfBytes bytes) k)).length = 512 :=
  (C17_struct_image_full _ (blkOfBytes_wf bytes).1 k).2

/-- the outcome of any program — result, disk, library memory, I/O counters — is the same from two states that
    differ only in the access log: nothing the library writes can depend on anything but the API-visible inputs
    (configuration, disk content, library memory, clock, fault schedule) -/
theorem C17_log_independent (c : Cfg) {α : Type} (p : Prog α) (a b : St) (h : EqUpToLog a b) :
    (run c p a).1 = (run c p b).1 ∧ EqUpToLog (run c p a).2 (run c p b).2 :=
  run_log_independent c p a b h

end Adf.C17
